/-
  C06 helpers: the independent specification codec round-trips (`spec_roundtrip`), and on values
  without strict-array elements the library's encoder and the specification's produce the same bytes
  (`lib_is_spec`, `spec_is_lib`).
-/
import Oryx.Proofs.Amf0RoundTrip
import Oryx.Spec.Amf0Rel
namespace Oryx.Spec.Amf0
open Oryx

/-! The two readers in terms of `ofBE`, so that reading back what `be` wrote is `ofBE_be_of_lt`. -/

theorem readUtf8_cons (a b : UInt8) (q : Bytes) : readUtf8 (a :: b :: q) =
    if ofBE [a, b] ≤ q.length then some (q.take (ofBE [a, b]), q.drop (ofBE [a, b])) else none := by
  have e : a.toNat * 256 + b.toNat = ofBE [a, b] := by
    simp only [ofBE, List.reverse_cons, List.reverse_nil, List.nil_append, List.cons_append, ofLE]; omega
  rw [readUtf8, e]

theorem readU32_cons (a b c d : UInt8) (q : Bytes) :
    readU32 (a :: b :: c :: d :: q) = some (ofBE [a, b, c, d], q) := by
  have e : ((a.toNat * 256 + b.toNat) * 256 + c.toNat) * 256 + d.toNat = ofBE [a, b, c, d] := by
    simp only [ofBE, List.reverse_cons, List.reverse_nil, List.nil_append, List.cons_append, ofLE]; omega
  rw [readU32, e]

theorem readUtf8_utf8 {s : Bytes} (h : s.length ≤ 65535) (rest : Bytes) :
    readUtf8 (utf8 s ++ rest) = some (s, rest) := by
  obtain ⟨a, b, e⟩ : ∃ a b, be 2 s.length = [a, b] := ⟨_, _, rfl⟩
  rw [utf8, e, show [a, b] ++ s ++ rest = a :: b :: (s ++ rest) from rfl, readUtf8_cons, ← e,
    ofBE_be_of_lt (by omega), if_pos (by rw [List.length_append]; omega), take_append_len _ _ rfl,
    drop_append_len _ _ rfl]

theorem readU32_be {n : Nat} (h : n < 4294967296) (rest : Bytes) :
    readU32 (be 4 n ++ rest) = some (n, rest) := by
  obtain ⟨a, b, c, d, e⟩ : ∃ a b c d, be 4 n = [a, b, c, d] := ⟨_, _, _, _, rfl⟩
  rw [e, show [a, b, c, d] ++ rest = a :: b :: c :: d :: rest from rfl, readU32_cons, ← e, ofBE_be_of_lt h]

theorem enc_head (v : SVal) : ∃ m tl, enc v = m :: tl ∧ m ≠ 0x09 := by
  cases v <;> exact ⟨_, _, rfl, by decide⟩

theorem enc_pos (v : SVal) : 1 ≤ (enc v).length := by
  obtain ⟨m, tl, h, _⟩ := enc_head v
  rw [h]; simp

theorem swf_string {s : Bytes} : swf (.string s) = true ↔ s.length ≤ 65535 := decide_eq_true_iff

theorem swf_ecmaArray {n : Nat} {ps : SProps} :
    swf (.ecmaArray n ps) = true ↔ n < 4294967296 ∧ swfP ps = true := by
  simp only [swf, Bool.and_eq_true, decide_eq_true_iff]

theorem swf_strictArray {vs : SVals} :
    swf (.strictArray vs) = true ↔ vs.length < 4294967296 ∧ swfV vs = true := by
  simp only [swf, Bool.and_eq_true, decide_eq_true_iff]

theorem swfP_cons {k : Bytes} {v : SVal} {tl : SProps} :
    swfP (.cons k v tl) = true ↔ k.length ≤ 65535 ∧ swf v = true ∧ swfP tl = true := by
  simp only [swfP, Bool.and_eq_true, decide_eq_true_iff, and_assoc]

theorem swfV_cons {v : SVal} {tl : SVals} : swfV (.cons v tl) = true ↔ swf v = true ∧ swfV tl = true := by
  simp only [swfV, Bool.and_eq_true]

theorem utf8_length (s : Bytes) : (utf8 s).length = 2 + s.length := by simp [utf8]

theorem dec_number (f : Nat) (q : Bytes) : dec (f+1) (0x00 :: q) =
    if 8 ≤ q.length then some (.number (UInt64.ofNat (ofBE (q.take 8))), q.drop 8) else none := rfl

theorem dec_boolean (f : Nat) (b : UInt8) (r : Bytes) :
    dec (f+1) (0x01 :: b :: r) = some (.boolean (b != 0), r) := rfl

theorem dec_string (f : Nat) (q : Bytes) : dec (f+1) (0x02 :: q) =
    match readUtf8 q with
    | some (s, r) => some (.string s, r)
    | none => none := rfl

theorem dec_object (f : Nat) (q : Bytes) : dec (f+1) (0x03 :: q) =
    match decProps f q with
    | some (ps, r) => some (.object ps, r)
    | none => none := rfl

theorem dec_null (f : Nat) (q : Bytes) : dec (f+1) (0x05 :: q) = some (.null, q) := rfl

theorem dec_undefined (f : Nat) (q : Bytes) : dec (f+1) (0x06 :: q) = some (.undefined, q) := rfl

theorem dec_ecmaArray (f : Nat) (q : Bytes) : dec (f+1) (0x08 :: q) =
    match readU32 q with
    | some (n, r) =>
      (match decProps f r with
       | some (ps, r') => some (.ecmaArray n ps, r')
       | none => none)
    | none => none := rfl

theorem dec_strictArray (f : Nat) (q : Bytes) : dec (f+1) (0x0A :: q) =
    match readU32 q with
    | some (n, r) =>
      (match decVals f n r with
       | some (vs, r') => some (.strictArray vs, r')
       | none => none)
    | none => none := rfl

mutual
theorem dec_enc (v : SVal) (rest : Bytes) (fuel : Nat) (h : swf v = true) (hf : (enc v).length ≤ fuel) :
    dec fuel (enc v ++ rest) = some (v, rest) := by
  obtain ⟨f, rfl⟩ := Nat.exists_eq_add_one.2 (Nat.lt_of_lt_of_le (enc_pos v) hf)
  match v, h, hf with
  | .number b, _, _ =>
    have h8 : (be 8 b.toNat).length = 8 := be_length 8 _
    show dec (f+1) (0x00 :: (be 8 b.toNat ++ rest)) = _
    rw [dec_number, if_pos (by simp only [List.length_append, h8]; omega), take_append_len _ _ h8,
      drop_append_len _ _ h8, UInt64.ofNat_ofBE_be]
  | .boolean b, _, _ => cases b <;> rfl
  | .string s, h, _ =>
    show dec (f+1) (0x02 :: (utf8 s ++ rest)) = _
    rw [dec_string, readUtf8_utf8 (swf_string.1 h)]
  | .null, _, _ => rfl
  | .undefined, _, _ => rfl
  | .object ps, h, hf =>
    show dec (f+1) (0x03 :: ((encProps ps ++ objectEnd) ++ rest)) = _
    rw [dec_object, List.append_assoc, show objectEnd ++ rest = 0 :: 0 :: 9 :: rest from rfl,
      decProps_enc ps rest f h (by simp only [enc, List.length_cons, List.length_append, objectEnd] at hf; omega)]
  | .ecmaArray n ps, h, hf =>
    obtain ⟨hc, hps⟩ := swf_ecmaArray.1 h
    show dec (f+1) (0x08 :: ((be 4 n ++ (encProps ps ++ objectEnd)) ++ rest)) = _
    rw [dec_ecmaArray, List.append_assoc, readU32_be hc, List.append_assoc,
      show objectEnd ++ rest = 0 :: 0 :: 9 :: rest from rfl]
    dsimp only
    rw [decProps_enc ps rest f hps (by
      simp only [enc, List.length_cons, List.length_append, objectEnd, be_length] at hf; omega)]
  | .strictArray vs, h, hf =>
    obtain ⟨hc, hvs⟩ := swf_strictArray.1 h
    show dec (f+1) (0x0A :: ((be 4 vs.length ++ encVals vs) ++ rest)) = _
    rw [dec_strictArray, List.append_assoc, readU32_be hc]
    dsimp only
    rw [decVals_enc vs rest f hvs (by simp only [enc, List.length_cons, List.length_append, be_length] at hf; omega)]
theorem decProps_enc (ps : SProps) (rest : Bytes) (fuel : Nat) (h : swfP ps = true)
    (hf : (encProps ps).length + 3 ≤ fuel) :
    decProps fuel (encProps ps ++ (0 :: 0 :: 9 :: rest)) = some (ps, rest) := by
  obtain ⟨f, rfl⟩ := Nat.exists_eq_add_one.2 (Nat.lt_of_lt_of_le (Nat.succ_pos _) hf)
  match ps, h, hf with
  | .nil, _, _ => simp [encProps, decProps, readUtf8]
  | .cons k v tl, h, hf =>
    obtain ⟨hk, hv, htl⟩ := swfP_cons.1 h
    simp only [encProps, List.length_append, utf8_length] at hf
    have hs := enc_pos v
    obtain ⟨m, t, he, hm⟩ := enc_head v
    have ihv := dec_enc v (encProps tl ++ (0 :: 0 :: 9 :: rest)) f hv (by omega)
    simp only [encProps, List.append_assoc, decProps, readUtf8_utf8 hk]
    rw [he, List.cons_append] at ihv ⊢
    simp only [hm, and_false, if_false, ihv, decProps_enc tl rest f htl (by omega)]
theorem decVals_enc (vs : SVals) (rest : Bytes) (fuel : Nat) (h : swfV vs = true)
    (hf : (encVals vs).length < fuel) : decVals fuel vs.length (encVals vs ++ rest) = some (vs, rest) := by
  match vs, h, hf with
  | .nil, _, _ => cases fuel <;> rfl
  | .cons v tl, h, hf =>
    obtain ⟨hv, htl⟩ := swfV_cons.1 h
    simp only [encVals, List.length_append] at hf
    have hs := enc_pos v
    obtain ⟨f, rfl⟩ : ∃ f, fuel = f + 1 := ⟨fuel - 1, by omega⟩
    simp only [encVals, List.append_assoc, SVals.length, decVals, dec_enc v _ f hv (by omega),
      decVals_enc tl rest f htl (by omega)]
end

theorem srtProps : ∀ (ps : SProps) (rest : Bytes) (fuel : Nat), swfP ps = true →
    (encProps ps ++ (0 :: 0 :: 9 :: rest)).length < fuel →
    decProps fuel (encProps ps ++ (0 :: 0 :: 9 :: rest)) = some (ps, rest) :=
  fun ps rest fuel h hf => decProps_enc ps rest fuel h (by
    simp only [List.length_append, List.length_cons] at hf; omega)

theorem srtVals : ∀ (vs : SVals) (rest : Bytes) (fuel : Nat), swfV vs = true →
    (encVals vs ++ rest).length + 1 < fuel →
    decVals fuel vs.length (encVals vs ++ rest) = some (vs, rest) :=
  fun vs rest fuel h hf => decVals_enc vs rest fuel h (by rw [List.length_append] at hf; omega)

theorem spec_roundtrip (v : SVal) (h : swf v = true) (rest : Bytes) :
    decode (enc v ++ rest) = some (v, rest) :=
  dec_enc v rest _ h (by rw [List.length_append]; omega)

end Oryx.Spec.Amf0

namespace Oryx.Amf0
open Oryx Oryx.Spec.Amf0

theorem utf8Enc_eq_spec {k : Bytes} (h : k.length ≤ 65535) : utf8Enc k = utf8 k := by
  rw [utf8Enc_of_le h]; rfl

mutual
theorem lib_is_spec : ∀ v : Val, wf v = true → compat v = true →
    ∃ s, toSpec v = some s ∧ swf s = true ∧ scompat s = true ∧ enc s = encode v
  | .num _, _, _ | .null, _, _ | .undef, _, _ => ⟨_, rfl, rfl, rfl, rfl⟩
  | .bool b, _, _ => ⟨_, rfl, rfl, rfl, by cases b <;> rfl⟩
  | .str s, h, _ => by
    have hs := wf_str.1 h
    exact ⟨.string s, rfl, swf_string.2 hs, rfl, by simp [enc, encode, utf8Enc_eq_spec hs]⟩
  | .eof, h, _ => by simp [wf] at h
  | .obj ps, h, hc => by
    obtain ⟨sp, h1, h2, h3, h4⟩ := lib_is_specP ps h (by simpa [compat] using hc)
    exact ⟨.object sp, by simp [toSpec, h1], h2, by simpa [scompat] using h3,
      by simp [enc, encode, h4, objectEnd, eofBytes]⟩
  | .ecma c ps, h, hc => by
    obtain ⟨hcn, hps⟩ := wf_ecma.1 h
    obtain ⟨sp, h1, h2, h3, h4⟩ := lib_is_specP ps hps (by simpa [compat] using hc)
    exact ⟨.ecmaArray c sp, by simp [toSpec, h1], swf_ecmaArray.2 ⟨hcn, h2⟩, by simpa [scompat] using h3,
      by simp [enc, encode, h4, objectEnd, eofBytes]⟩
  | .strict ps, _, hc => by
    cases ps with
    | nil => exact ⟨.strictArray .nil, rfl, rfl, rfl, rfl⟩
    | cons k v tl => simp [compat] at hc
theorem lib_is_specP : ∀ ps : Props, wfP ps = true → compatP ps = true →
    ∃ sp, toSpecP ps = some sp ∧ swfP sp = true ∧ scompatP sp = true ∧ encProps sp = encodeP ps
  | .nil, _, _ => ⟨.nil, rfl, rfl, rfl, rfl⟩
  | .cons k v tl, h, hc => by
    obtain ⟨hk, hv, htl⟩ := wfP_cons.1 h
    have ⟨hcv, hctl⟩ : compat v = true ∧ compatP tl = true := by simpa [compatP] using hc
    obtain ⟨s, a1, a2, a3, a4⟩ := lib_is_spec v hv hcv
    obtain ⟨sp, b1, b2, b3, b4⟩ := lib_is_specP tl htl hctl
    exact ⟨.cons k s sp, by simp [toSpecP, a1, b1], swfP_cons.2 ⟨hk, a2, b2⟩, by simp [scompatP, a3, b3],
      by simp [encProps, encodeP, a4, b4, utf8Enc_eq_spec hk]⟩
end

mutual
theorem spec_is_lib : ∀ s : SVal, swf s = true → scompat s = true →
    wf (ofSpec s) = true ∧ compat (ofSpec s) = true ∧ toSpec (ofSpec s) = some s ∧ encode (ofSpec s) = enc s
  | .number _, _, _ | .null, _, _ | .undefined, _, _ => ⟨rfl, rfl, rfl, rfl⟩
  | .boolean b, _, _ => ⟨rfl, rfl, rfl, by cases b <;> rfl⟩
  | .string s, h, _ => by
    have hs := swf_string.1 h
    exact ⟨wf_str.2 hs, rfl, rfl, by simp [ofSpec, enc, encode, utf8Enc_eq_spec hs]⟩
  | .object ps, h, hc => by
    obtain ⟨h1, h2, h3, h4⟩ := spec_is_libP ps h (by simpa [scompat] using hc)
    exact ⟨h1, by simpa [ofSpec, compat] using h2, by simp [ofSpec, toSpec, h3],
      by simp [ofSpec, enc, encode, h4, objectEnd, eofBytes]⟩
  | .ecmaArray c ps, h, hc => by
    obtain ⟨hcn, hps⟩ := swf_ecmaArray.1 h
    obtain ⟨h1, h2, h3, h4⟩ := spec_is_libP ps hps (by simpa [scompat] using hc)
    exact ⟨wf_ecma.2 ⟨hcn, h1⟩, by simpa [ofSpec, compat] using h2, by simp [ofSpec, toSpec, h3],
      by simp [ofSpec, enc, encode, h4, objectEnd, eofBytes]⟩
  | .strictArray vs, _, hc => by
    cases vs with
    | nil => exact ⟨rfl, rfl, rfl, rfl⟩
    | cons v tl => simp [scompat] at hc
theorem spec_is_libP : ∀ sp : SProps, swfP sp = true → scompatP sp = true →
    wfP (ofSpecP sp) = true ∧ compatP (ofSpecP sp) = true ∧ toSpecP (ofSpecP sp) = some sp ∧
    encodeP (ofSpecP sp) = encProps sp
  | .nil, _, _ => ⟨rfl, rfl, rfl, rfl⟩
  | .cons k v tl, h, hc => by
    obtain ⟨hk, hv, htl⟩ := swfP_cons.1 h
    have ⟨hcv, hctl⟩ : scompat v = true ∧ scompatP tl = true := by simpa [scompatP] using hc
    obtain ⟨a1, a2, a3, a4⟩ := spec_is_lib v hv hcv
    obtain ⟨b1, b2, b3, b4⟩ := spec_is_libP tl htl hctl
    exact ⟨wfP_cons.2 ⟨hk, a1, b1⟩, by simp [ofSpecP, compatP, a2, b2], by simp [ofSpecP, toSpecP, a3, b3],
      by simp [ofSpecP, encProps, encodeP, a4, b4, utf8Enc_eq_spec hk]⟩
end

end Oryx.Amf0
