/-
  Lemmas for C20 (kxps rate meters): the counter difference as a balanced residue, the sampling cascade window by
  window and one call of the average in closed form (`avgRate`), the invariant `Meter.Good` of the stored rates, and
  the two abstraction functions (`Meter.ref`, `Meter.base`) through which the theorems about whole histories go.
-/
import Oryx.Model.Kxps
namespace Oryx.Kxps
open Oryx Oryx.Res
open Oryx.Gen.Kxps renaming interval_r10s → I10, interval_r30s → I30, interval_r300s → I300

/-! ### the counter difference -/

/-- Go's `uint64` subtraction, read as an integer, is the residue of the true difference. -/
theorem wrapSub_cast (M a b : Nat) (hM : 0 < M) :
    (((a % M + M - b % M) % M : Nat) : Int) = ((a : Int) - b) % M := by
  have hb : b % M ≤ a % M + M := Nat.le_trans (Nat.le_of_lt (Nat.mod_lt b hM)) (Nat.le_add_left _ _)
  rw [Int.natCast_emod, Int.ofNat_sub hb, Int.natCast_add, Int.natCast_emod, Int.natCast_emod,
    show ((a : Int) % M + M - b % M) = a % M - b % M + M by omega,
    Int.add_emod_right, Int.emod_sub_emod, Int.sub_emod_emod]

theorem diff64_eq_bmod (a b : Nat) : diff64 a b = ((a : Int) - b).bmod two64 := by
  have h2 : ((two64 : Int) + 1) / 2 = (two63 : Nat) := by decide
  simp only [diff64, Int.bmod, ← wrapSub_cast two64 a b (by decide), h2, Int.ofNat_lt]

theorem two64_eq : two64 = 2 * two63 := rfl

theorem diff64_of_lt {a b : Nat} (ha : a < two63) (hb : b < two63) : diff64 a b = (a : Int) - (b : Int) := by
  rw [diff64_eq_bmod, two64_eq]
  exact Int.bmod_eq_of_le_mul_two (by omega) (by omega)

theorem diff64_incr (prev inc : Nat) : diff64 ((prev + inc) % two64) prev = (inc : Int).bmod two64 := by
  rw [diff64_eq_bmod, Int.natCast_emod, Int.emod_sub_bmod, Int.natCast_add,
    show ((prev : Int) + inc - prev) = inc by omega]

theorem diff64_wrap {prev inc : Nat} (hi : inc < two63) : diff64 ((prev + inc) % two64) prev = (inc : Int) := by
  rw [diff64_incr, two64_eq]
  exact Int.bmod_eq_of_le_mul_two (by omega) (by omega)

/-- An increase of 2^63 or more reads as non-positive (the other side of the same boundary). -/
theorem diff64_big_increase {prev inc : Nat} (hp : prev < two64) (hi : two63 ≤ inc) (hi' : inc < two64) :
    diff64 ((prev + inc) % two64) prev ≤ 0 := by
  rw [two64_eq] at hi'
  rw [diff64_incr, ← Int.sub_bmod_right, two64_eq, Int.bmod_eq_of_le_mul_two (by omega) (by omega)]
  omega

theorem diff64_bounds (a b : Nat) : -(two63 : Int) ≤ diff64 a b ∧ diff64 a b < (two63 : Int) := by
  rw [diff64_eq_bmod]
  exact ⟨Int.le_bmod (by decide), Int.bmod_lt (by decide)⟩

/-! ### one window -/

def Rate.Good (r : Rate) : Prop := 0 ≤ r.num ∧ 0 < r.den

theorem Rate.zero_good : Rate.zero.Good := by simp [Rate.Good, Rate.zero]

theorem Rate.kbps_good {r : Rate} (h : r.Good) : r.kbps.Good := by
  obtain ⟨h1, h2⟩ := h
  show 0 ≤ r.num * 8 ∧ 0 < r.den * 1000
  omega

/-- Whether a window whose previous sample was at `last` fires at `now`. -/
def fires (intervalNs : Nat) (last now : Int) : Bool := decide (last + (intervalNs : Int) ≤ now)

/-- The rate a firing window computes: `max 0 diff · 1000 / windowMs`. -/
def firedRate (intervalNs : Nat) (count prev : Nat) : Rate :=
  if diff64 count prev ≤ 0 then ⟨0, 1⟩ else ⟨diff64 count prev * (Gen.Kxps.rateScale : Int), windowMs intervalNs⟩

theorem sample_eq (iv : Nat) (s : Sample) (now : Int) (n : Nat) :
    Sample.sample iv s now n =
      if fires iv s.last now then
        ({ s with count := n, last := now, rate := firedRate iv n s.count }, true)
      else (s, false) := by
  unfold Sample.sample fires firedRate
  by_cases h : s.last + (iv : Int) > now
  · simp [h, Int.not_le.mpr h]
  · simp only [h, if_false, Int.not_lt.mp h, decide_true, if_true]
    split <;> rfl

theorem firedRate_of_nonpos {iv c p : Nat} (h : diff64 c p ≤ 0) : firedRate iv c p = ⟨0, 1⟩ := if_pos h

/-- Here the generated `rateScale` becomes its literal (in `avgRate_of_pos` `msDivisor` too): a goal reached by
`rw [firedRate]` holds the constant, which this lemma does not match. -/
theorem firedRate_of_pos {iv c p : Nat} (h : 0 < diff64 c p) :
    firedRate iv c p = ⟨diff64 c p * 1000, windowMs iv⟩ := if_neg (Int.not_le.mpr h)

theorem firedRate_good (iv : Nat) (hiv : 0 < windowMs iv) (n p : Nat) : (firedRate iv n p).Good := by
  by_cases h : diff64 n p ≤ 0
  · rw [firedRate_of_nonpos h]; exact ⟨by decide, by decide⟩
  · rw [firedRate_of_pos (by omega)]; exact ⟨show 0 ≤ diff64 n p * 1000 by omega, hiv⟩

theorem windowMs_pos : 0 < windowMs I10 ∧ 0 < windowMs I30 ∧ 0 < windowMs I300 := by decide

/-! ### the cascade, declaratively -/

/-- One window's update, given whether the cascade consults it (`gate`). -/
def winStep (iv : Nat) (gate : Bool) (s : Sample) (now : Int) (c : Nat) : Sample :=
  if gate && fires iv s.last now then { s with count := c, last := now, rate := firedRate iv c s.count } else s

theorem winStep_false (iv : Nat) (s : Sample) (now : Int) (c : Nat) : winStep iv false s now c = s := rfl

theorem winStep_true (iv : Nat) (s : Sample) (now : Int) (c : Nat) : winStep iv true s now c =
    if fires iv s.last now then { s with count := c, last := now, rate := firedRate iv c s.count } else s := rfl

def fired10 (m : Meter) (now : Int) : Bool := fires I10 m.r10s.last now
def fired30 (m : Meter) (now : Int) : Bool := fired10 m now && fires I30 m.r30s.last now
def fired300 (m : Meter) (now : Int) : Bool := fired30 m now && fires I300 m.r300s.last now

theorem doSample_step (m : Meter) (now : Int) (c : Nat) (hc : c ≠ 0) (hi : m.r10s.count ≠ 0) :
    m.doSample now c =
      { m with r10s := winStep I10 true m.r10s now c,
               r30s := winStep I30 (fired10 m now) m.r30s now c,
               r300s := winStep I300 (fired30 m now) m.r300s now c } := by
  unfold Meter.doSample
  simp only [hc, hi, if_false, sample_eq, winStep, fired10, fired30]
  by_cases h1 : fires I10 m.r10s.last now = true
  · by_cases h2 : fires I30 m.r30s.last now = true
    · by_cases h3 : fires I300 m.r300s.last now = true <;> simp [h1, h2, h3]
    · simp [h1, h2]
  · simp [h1]

theorem doSample_zero (m : Meter) (now : Int) : m.doSample now 0 = m := by simp [Meter.doSample]

theorem doSample_init (m : Meter) (now : Int) (c : Nat) (hc : c ≠ 0) (hi : m.r10s.count = 0) :
    m.doSample now c =
      { m with r10s := m.r10s.initialize now c, r30s := m.r30s.initialize now c, r300s := m.r300s.initialize now c } := by
  simp [Meter.doSample, hc, hi]

theorem doSample_cases {P : Meter → Prop} (m : Meter) (now : Int) (c : Nat) (zero : c = 0 → P m)
    (init : c ≠ 0 → m.r10s.count = 0 →
      P { m with r10s := m.r10s.initialize now c, r30s := m.r30s.initialize now c, r300s := m.r300s.initialize now c })
    (step : c ≠ 0 → m.r10s.count ≠ 0 →
      P { m with r10s := winStep I10 true m.r10s now c, r30s := winStep I30 (fired10 m now) m.r30s now c,
                 r300s := winStep I300 (fired30 m now) m.r300s now c }) :
    P (m.doSample now c) := by
  by_cases hc : c = 0
  · rw [hc, doSample_zero]; exact zero hc
  · by_cases hi : m.r10s.count = 0
    · rw [doSample_init m now c hc hi]; exact init hc hi
    · rw [doSample_step m now c hc hi]; exact step hc hi

theorem doSample_frame (m : Meter) (now : Int) (c : Nat) :
    m.doSample now c = { m with r10s := (m.doSample now c).r10s, r30s := (m.doSample now c).r30s,
                                r300s := (m.doSample now c).r300s } :=
  doSample_cases (P := fun m' => m' = { m with r10s := m'.r10s, r30s := m'.r30s, r300s := m'.r300s }) m now c
    (fun _ => rfl) (fun _ _ => rfl) (fun _ _ => rfl)

/-! ### one call of the average -/

/-- What `sampleAverage` reports at `(now, c)` against the planted base `(t0, c0)`:
`max 0 (c − c0) · 1000 / ⌊(now − t0) / 1 ms⌋`, and 0 while no whole millisecond has elapsed. -/
def avgRate (t0 : Int) (c0 : Nat) (now : Int) (c : Nat) : Rate :=
  let diff := diff64 c c0
  let ms := Int.tdiv (clamp64 (now - t0)) (Gen.Kxps.msDivisor : Int)
  if c = 0 ∨ diff ≤ 0 ∨ ms ≤ 0 then Rate.zero else ⟨diff * (Gen.Kxps.rateScale : Int), ms⟩

theorem sampleAverage_eq (m : Meter) (now : Int) (c : Nat) :
    m.sampleAverage now c =
      (if c ≠ 0 ∧ m.average = 0 then { m with average := c, create := now } else m,
       if m.average = 0 then Rate.zero else avgRate m.create m.average now c) := by
  unfold Meter.sampleAverage avgRate
  by_cases hc : c = 0
  · simp [hc]
  by_cases ha : m.average = 0
  · simp [hc, ha]
  by_cases hd : diff64 c m.average ≤ 0
  · simp [hc, ha, hd]
  simp only [hc, ha, hd, if_false, false_or, and_false, ne_eq, not_false_eq_true]
  split <;> rfl

theorem sampleAverage_frame (m : Meter) (now : Int) (c : Nat) :
    (m.sampleAverage now c).1 =
      { m with average := (m.sampleAverage now c).1.average, create := (m.sampleAverage now c).1.create } := by
  rw [sampleAverage_eq]; dsimp only; split <;> rfl

theorem avgRate_of_nonpos {t0 now : Int} {c0 c : Nat} (h : diff64 c c0 ≤ 0) : avgRate t0 c0 now c = Rate.zero :=
  if_pos (.inr (.inl h))

theorem avgRate_of_pos {t0 now : Int} {c0 c : Nat} (hc : c ≠ 0) (hd : 0 < diff64 c c0)
    (hms : 0 < (clamp64 (now - t0)).tdiv 1000000) :
    avgRate t0 c0 now c = ⟨diff64 c c0 * 1000, (clamp64 (now - t0)).tdiv 1000000⟩ :=
  if_neg (not_or.mpr ⟨hc, not_or.mpr ⟨Int.not_le.mpr hd, Int.not_le.mpr hms⟩⟩)

theorem clamp64_of_bounds {x : Int} (h1 : -(two63 : Int) ≤ x) (h2 : x < (two63 : Int)) : clamp64 x = x := by
  unfold clamp64
  split
  · omega
  · split
    · omega
    · rfl

theorem avgRate_good (t0 : Int) (c0 : Nat) (now : Int) (c : Nat) : (avgRate t0 c0 now c).Good := by
  unfold avgRate
  dsimp only
  split
  · exact Rate.zero_good
  · simp only [Rate.Good, show ((Gen.Kxps.rateScale : Nat) : Int) = 1000 from rfl]; omega

theorem sampleAverage_good (m : Meter) (now : Int) (c : Nat) : (m.sampleAverage now c).2.Good := by
  rw [sampleAverage_eq]; dsimp only; split
  · exact Rate.zero_good
  · exact avgRate_good ..

/-! ### the property's per-window formula over a whole history (reference tracker) -/

/-- Reference state: per window the previous sample `(count, last)` and the reported `rate`. -/
structure Ref where
  init : Bool := false
  w10 : Sample := {}
  w30 : Sample := {}
  w300 : Sample := {}

/-- One observation, per window and without early returns: a window samples when it is consulted
(10 s: always; 30 s: iff the 10 s window sampled now; 300 s: iff the 30 s window sampled now) and a
full window length has elapsed since *its own* previous sample; then it reports
`max 0 (count − prevCount) · 1000 / windowMs` and remembers `(count, now)`; otherwise nothing changes. -/
def Ref.step (r : Ref) (now : Int) (c : Nat) : Ref :=
  if c = 0 then r
  else if !r.init then
    { init := true, w10 := r.w10.initialize now c, w30 := r.w30.initialize now c, w300 := r.w300.initialize now c }
  else
    let f10 := fires I10 r.w10.last now
    let f30 := f10 && fires I30 r.w30.last now
    { r with w10 := winStep I10 true r.w10 now c,
             w30 := winStep I30 f10 r.w30 now c,
             w300 := winStep I300 f30 r.w300 now c }

def Ref.run (r : Ref) : List Op → Ref
  | [] => r
  | .sample now c :: os => (r.step now c).run os
  | _ :: os => r.run os

theorem ref_run_cons (r : Ref) (o : Op) (os : List Op) : r.run (o :: os) = (r.run [o]).run os := by
  cases o <;> simp [Ref.run]

/-- The reference state a meter stands for. -/
def Meter.ref (m : Meter) : Ref :=
  { init := decide (m.r10s.count ≠ 0), w10 := m.r10s, w30 := m.r30s, w300 := m.r300s }

theorem ref_doSample (m : Meter) (now : Int) (c : Nat) : (m.doSample now c).ref = m.ref.step now c := by
  unfold Ref.step
  refine doSample_cases (P := fun m' => m'.ref = _) m now c (fun hc => ?_) (fun hc hi => ?_) (fun hc hi => ?_)
  · simp [hc]
  · simp [Meter.ref, hc, hi, Sample.initialize]
  · have key : (winStep I10 true m.r10s now c).count ≠ 0 := by
      rw [winStep_true]; split <;> assumption
    simp [Meter.ref, hc, hi, key, fired10, fired30]

theorem ref_exec1 (m : Meter) (o : Op) : (m.exec1 o).ref = m.ref.run [o] := by
  cases o with
  | start => rfl
  | close => rfl
  | sample now c => exact ref_doSample m now c
  | avg now c => rw [Meter.exec1, sampleAverage_frame]; rfl

theorem ref_exec (m : Meter) (os : List Op) : (m.exec os).ref = m.ref.run os := by
  induction os generalizing m with
  | nil => rfl
  | cons o os ih => rw [Meter.exec, ih, ref_exec1, ← ref_run_cons]

/-! ### every reported value is `Rate.Good` -/

def Meter.Good (m : Meter) : Prop := m.r10s.rate.Good ∧ m.r30s.rate.Good ∧ m.r300s.rate.Good

theorem winStep_good {iv : Nat} (hiv : 0 < windowMs iv) {s : Sample} (h : s.rate.Good) (g : Bool) (now : Int) (c : Nat) :
    (winStep iv g s now c).rate.Good := by
  unfold winStep
  split
  · exact firedRate_good iv hiv c s.count
  · exact h

theorem doSample_good {m : Meter} (h : m.Good) (now : Int) (c : Nat) : (m.doSample now c).Good :=
  have ⟨h10, h30, h300⟩ := h
  have ⟨p10, p30, p300⟩ := windowMs_pos
  doSample_cases m now c (fun _ => h) (fun _ _ => h) fun _ _ =>
    ⟨winStep_good p10 h10 _ _ _, winStep_good p30 h30 _ _ _, winStep_good p300 h300 _ _ _⟩

theorem exec1_good {m : Meter} (h : m.Good) (o : Op) : (m.exec1 o).Good := by
  cases o with
  | start => exact h
  | close => exact h
  | sample now c => exact doSample_good h now c
  | avg now c => rw [Meter.exec1, sampleAverage_frame]; exact h

theorem exec_good {m : Meter} (h : m.Good) (os : List Op) : (m.exec os).Good := by
  induction os generalizing m with
  | nil => exact h
  | cons o os ih => exact ih (exec1_good h o)

theorem new_good : Meter.new.Good := ⟨Rate.zero_good, Rate.zero_good, Rate.zero_good⟩

/-! ### the base of the average -/

/-- The first non-zero observation made by the average (`none` while there is none). -/
def avgBase : List Op → Option (Int × Nat)
  | [] => none
  | .avg now c :: os => if c ≠ 0 then some (now, c) else avgBase os
  | _ :: os => avgBase os

theorem avgBase_cons (o : Op) (os : List Op) : avgBase (o :: os) = (avgBase [o]).or (avgBase os) := by
  cases o with
  | avg now c => by_cases hc : c = 0 <;> simp [avgBase, hc]
  | _ => simp [avgBase]

/-- The base a meter measures its average against (`none`: not planted yet). -/
def Meter.base (m : Meter) : Option (Int × Nat) := if m.average = 0 then none else some (m.create, m.average)

theorem base_exec1 (m : Meter) (o : Op) : (m.exec1 o).base = m.base.or (avgBase [o]) := by
  cases o with
  | start => exact (Option.or_none).symm
  | close => exact (Option.or_none).symm
  | sample now c => rw [Meter.exec1, doSample_frame]; exact (Option.or_none).symm
  | avg now c =>
    simp only [Meter.exec1, sampleAverage_eq, Meter.base, avgBase]
    by_cases hc : c = 0 <;> by_cases ha : m.average = 0 <;> simp [hc, ha]

theorem base_exec (m : Meter) (os : List Op) : (m.exec os).base = m.base.or (avgBase os) := by
  induction os generalizing m with
  | nil => exact (Option.or_none).symm
  | cons o os ih => rw [Meter.exec, ih, base_exec1, Option.or_assoc, ← avgBase_cons]

end Oryx.Kxps
