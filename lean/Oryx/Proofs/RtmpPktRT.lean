/-
  C03, part 2: `UnmarshalBinary (MarshalBinary p) = p` for every well-formed packet (arbitrary well-formed
  AMF0 trees through C05's round trip): each field decoder on its own encoding, then every packet type by
  rewriting with those.
-/
import Oryx.Proofs.RtmpPkt
import Oryx.Proofs.Amf0RoundTrip
namespace Oryx.RtmpPkt
open Oryx Oryx.Res Oryx.Amf0 Oryx.Rtmp

theorem strDec_enc {s : Bytes} (h : s.length ≤ 65535) (rest : Bytes) :
    strDec (encode (.str s) ++ rest) = ok s := by
  simp only [encode, List.cons_append, strDec]
  rw [utf8Dec_enc h]
  simp

theorem sliceFrom_encode_append (v : Val) (rest : Bytes) : sliceFrom (encode v ++ rest) (Amf0.size v) = ok rest :=
  sliceFrom_append _ _ (encode_length v)

theorem numDec_enc (t : UInt64) (rest : Bytes) : numDec (encode (.num t) ++ rest) = ok t := by
  have h8 : (be 8 t.toNat).length = 8 := be_length 8 _
  simp only [encode, List.cons_append, numDec, List.length_cons, List.length_append, h8]
  rw [take_append_len _ _ h8, UInt64.ofNat_ofBE_be]
  have e : ¬ (8 + rest.length + 1 < 9) := by omega
  simp [e]

theorem objDec_enc {ps : Props} (h : wfP ps = true) (rest : Bytes) :
    objDec (encode (.obj ps) ++ rest) = ok ps := by
  simp only [encode, eofBytes, List.cons_append, List.append_assoc, List.nil_append, objDec]
  rw [rtProps ps rest _ h (by simp)]
  simp

theorem anyDec_enc {v : Val} (h : wf v = true) (rest : Bytes) : anyDec (encode v ++ rest) = ok v := by
  unfold anyDec
  rw [decode_encode h rest]
  rfl

theorem encode_append_length_pos (v : Val) (rest : Bytes) : (encode v ++ rest).length > 0 := by
  have := encode_length v; have := size_pos v
  rw [List.length_append]; omega

theorem ObjCall.unmarshal_marshal (c : ObjCall) (h : c.wf = true) : ObjCall.unmarshal c.marshal = ok c := by
  obtain ⟨hn, ho, ha⟩ := ObjCall.wf_iff.mp h
  obtain ⟨name, tid, obj, args⟩ := c
  -- every field lemma speaks of what follows the field: let `[]` follow the last one
  rw [← List.append_nil (ObjCall.marshal _)]
  unfold ObjCall.unmarshal ObjCall.marshal
  simp only [List.append_assoc, strDec_enc hn, sliceFrom_encode_append, numDec_enc, objDec_enc ho, Res.bind_ok]
  cases args with
  | none => rfl
  | some a =>
    simp only [Nat.ne_of_gt (encode_append_length_pos (.obj a) []), if_false, objDec_enc (ha a rfl)]; rfl

/-- A variant call followed by `rest` is read back as it was — when it has a command object, or nothing
follows (without one, the decoder takes the next byte for it). -/
theorem VarCall.unmarshal_append (c : VarCall) (h : c.wf = true) (rest : Bytes) (hr : c.obj.isSome ∨ rest = []) :
    VarCall.unmarshal (c.marshal ++ rest) = ok c := by
  obtain ⟨hn, ho⟩ := VarCall.wf_iff.mp h
  obtain ⟨name, tid, obj⟩ := c
  unfold VarCall.unmarshal VarCall.marshal
  cases obj with
  | some v =>
    simp only [optEnc, List.append_assoc, strDec_enc hn, sliceFrom_encode_append, numDec_enc, Res.bind_ok, encode_append_length_pos, if_true,
      anyDec_enc (show Amf0.wf v = true from ho)]
    rfl
  | none =>
    obtain rfl : rest = [] := hr.resolve_left (by simp)
    simp only [optEnc, List.append_assoc, strDec_enc hn, sliceFrom_encode_append, numDec_enc, Res.bind_ok]
    rfl

theorem VarCall.unmarshal_marshal (c : VarCall) (h : c.wf = true) : VarCall.unmarshal c.marshal = ok c := by
  have := VarCall.unmarshal_append c h [] (.inr rfl)
  rwa [List.append_nil] at this

theorem sliceFrom_marshal_append (c : VarCall) (rest : Bytes) : sliceFrom (c.marshal ++ rest) c.size = ok rest :=
  sliceFrom_append _ _ (VarCall.marshal_length c)

theorem getD_append_be1 {a : Bytes} {n d : Nat} (ha : a.length = n) (hd : d < 256) (rest : Bytes) :
    ((a ++ (be 1 d ++ rest)).getD n 0).toNat = d := by
  rw [be_one, List.getD_eq_getElem?_getD, List.getElem?_append_right (Nat.le_of_eq ha), ha, Nat.sub_self]
  exact UInt8.toNat_ofNat_of_lt' hd

theorem userControl_roundtrip (evt d x : Nat) (h : (Packet.userControl evt d x).wf = true) (rest : Bytes) :
    unmarshal .userControl ((Packet.userControl evt d x).marshal ++ rest) = ok (.userControl evt d x) := by
  obtain ⟨he, hd, hx, hfd, hsx⟩ := Packet.wf_iff.mp h
  have hlen : ((Packet.userControl evt d x).marshal ++ rest).length = userControlSize evt + rest.length := by
    rw [List.length_append, userControl_marshal_length]
  have h3 := userControlSize_ge evt
  simp only [Packet.marshal, List.append_assoc] at hlen ⊢
  rw [unmarshal_userControl, ofBE_take_be he, if_neg (by rw [hlen]; omega)]
  have h2 : (be 2 evt).length = 2 := be_length 2 _
  by_cases hf : evt = Gen.Rtmp.EventTypeFmsEvent0
  · have hs : evt ≠ Gen.Rtmp.EventTypeSetBufferLength := by rw [hf]; decide
    rw [if_pos hf, if_pos hf, if_neg hs, if_neg hs, getD_append_be1 h2 (hfd hf), hsx hs]
  · rw [if_neg hf, if_neg hf, drop_append_len _ _ h2, ofBE_take_be (n := 4) hd]
    by_cases hs : evt = Gen.Rtmp.EventTypeSetBufferLength
    · have h6 : (be 2 evt ++ be 4 d).length = 6 := by rw [List.length_append, h2, be_length]
      rw [if_pos hs, if_pos hs, ← List.append_assoc (be 2 evt), drop_append_len _ _ h6, ofBE_take_be (n := 4) hx]
    · rw [if_neg hs, hsx hs]

theorem unmarshal_marshal (p : Packet) (h : p.wf = true) : unmarshal p.kind p.marshal = ok p := by
  rw [← List.append_nil p.marshal]
  cases p with
  | connect c =>
    obtain ⟨hc, hn, ht⟩ := Packet.wf_iff.mp h
    simp only [Packet.kind, Packet.marshal, List.append_nil, unmarshal, ObjCall.unmarshal_marshal c hc, Res.bind_ok]
    simp [hn, ht]
  | connectRes c =>
    obtain ⟨hc, hn⟩ := Packet.wf_iff.mp h
    simp only [Packet.kind, Packet.marshal, List.append_nil, unmarshal, ObjCall.unmarshal_marshal c hc, Res.bind_ok]
    simp [hn]
  | createStream c =>
    simp only [Packet.kind, Packet.marshal, unmarshal, VarCall.unmarshal_append c (Packet.wf_iff.mp h) [] (.inr rfl),
      Res.bind_ok]
    rfl
  | createStreamRes c sid =>
    obtain ⟨hc, ho⟩ := Packet.wf_iff.mp h
    simp only [Packet.kind, Packet.marshal, List.append_assoc, unmarshal, VarCall.unmarshal_append c hc _ (.inl ho),
      sliceFrom_marshal_append, numDec_enc, Res.bind_ok]
    rfl
  | publish c sn st =>
    obtain ⟨hc, ho, hsn, hst⟩ := Packet.wf_iff.mp h
    simp only [Packet.kind, Packet.marshal, List.append_assoc, unmarshal, VarCall.unmarshal_append c hc _ (.inl ho),
      sliceFrom_marshal_append, strDec_enc hsn, sliceFrom_encode_append, strDec_enc hst, Res.bind_ok]
    rfl
  | play c sn =>
    obtain ⟨hc, ho, hsn⟩ := Packet.wf_iff.mp h
    simp only [Packet.kind, Packet.marshal, List.append_assoc, unmarshal, VarCall.unmarshal_append c hc _ (.inl ho),
      sliceFrom_marshal_append, strDec_enc hsn, sliceFrom_encode_append, Res.bind_ok]
    rfl
  | call c a =>
    obtain ⟨hc, ha, hs⟩ := Packet.wf_iff.mp h
    cases a with
    | none =>
      simp only [Packet.kind, Packet.marshal, optEnc, List.append_assoc, List.nil_append, unmarshal,
        VarCall.unmarshal_append c hc [] (.inr rfl), sliceFrom_marshal_append, Res.bind_ok]
      rfl
    | some w =>
      simp only [Packet.kind, Packet.marshal, optEnc, List.append_assoc, unmarshal,
        VarCall.unmarshal_append c hc _ (.inl (hs.resolve_right nofun)), sliceFrom_marshal_append, Res.bind_ok, encode_append_length_pos, if_true,
        anyDec_enc (show Amf0.wf w = true from ha)]
      rfl
  | setChunkSize v =>
    show unmarshal .setChunkSize (be 4 v ++ []) = _
    rw [unmarshal_setChunkSize, ofBE_take_be (n := 4) (Packet.wf_iff.mp h), List.append_nil, be_length, if_neg (Nat.lt_irrefl 4)]
  | winAck v =>
    show unmarshal .winAck (be 4 v ++ []) = _
    rw [unmarshal_winAck, ofBE_take_be (n := 4) (Packet.wf_iff.mp h), List.append_nil, be_length, if_neg (Nat.lt_irrefl 4)]
  | setPeerBw v l =>
    obtain ⟨hv, hl⟩ := Packet.wf_iff.mp h
    show unmarshal .setPeerBw (be 4 v ++ be 1 l ++ []) = _
    rw [List.append_assoc, unmarshal_setPeerBw, if_neg (by simp), ofBE_take_be hv, getD_append_be1 (be_length 4 v) hl]
  | userControl e d x => exact userControl_roundtrip e d x h []

end Oryx.RtmpPkt
