/-
  Lemmas for C18: the allocator's invariant, the decimal round trip, a printer for the parsed prefix
  with the parser inverting it, the prefixes the extracted formats produce, the structure of a line,
  the reader that splits the writer's bytes at newlines.
-/
import Oryx.Model.Logger
namespace Oryx.Logger
open Oryx
open Oryx.Gen.Logger (CidAlloc)

/-! ## allocator -/

/-- The invariant of the atomic disciplines. -/
structure AllocInv (s : St) : Prop where
  bounded : ∀ id ∈ s.ids, id ≤ s.counter
  nodup : s.ids.Nodup
  aliases : ∀ p ∈ s.aliases, p.2 = p.1 ∧ p.1 ∈ s.ids

theorem allocInv_init : AllocInv St.init := by
  refine ⟨?_, ?_, ?_⟩ <;> simp [St.init, St.ids]

theorem allocInv_step {m : CidAlloc} (hm : m ≠ .plainRMW) {s s' : St} {op : Op}
    (h : AllocInv s) (hs : exec m s op = some s') : AllocInv s' := by
  obtain ⟨hle, hnd, hal⟩ := h
  cases op with
  | add g =>
    simp only [exec, hm, if_false] at hs
    cases hs
    refine ⟨fun id hid => ?_, List.nodup_cons.mpr ⟨fun hmem => Nat.lt_irrefl _ (hle _ hmem), hnd⟩,
      fun p hp => ⟨(hal p hp).1, List.mem_cons_of_mem _ (hal p hp).2⟩⟩
    rcases List.mem_cons.mp hid with rfl | hid
    · exact Nat.le_refl _
    · exact Nat.le_succ_of_le (hle id hid)
  | load g => simp [exec, hm] at hs
  | store g => simp [exec, hm] at hs
  | «alias» g src =>
    simp only [exec] at hs
    split at hs
    · rename_i hsrc
      cases hs
      refine ⟨hle, hnd, fun p hp => ?_⟩
      rcases List.mem_cons.mp hp with rfl | hp
      · exact ⟨rfl, hsrc⟩
      · exact hal p hp
    · cases hs

theorem allocInv_reach {m : CidAlloc} (hm : m ≠ .plainRMW) {s : St} (h : Reach m s) : AllocInv s := by
  induction h with
  | init => exact allocInv_init
  | step op _ hs ih => exact allocInv_step hm ih hs

theorem reach_of_run {m : CidAlloc} : ∀ (ops : List Op) (s s' : St), Reach m s → run m s ops = some s' → Reach m s'
  | [], _, _, h, hr => by cases hr; exact h
  | op :: ops, s, s', h, hr => by
    simp only [run] at hr
    split at hr
    · cases hr
    · rename_i s1 he; exact reach_of_run ops s1 s' (.step op h he) hr

/-! ## decimal text -/

/-- What the parser needs of the characters of a decimal text: none ends a bracket or a line. -/
def NotCloseNl (c : Char) : Prop := c ≠ ']' ∧ c ≠ '\n'

theorem noNl_of_notCloseNl {a : List Char} (h : ∀ c ∈ a, NotCloseNl c) : '\n' ∉ a :=
  fun hm => (h _ hm).2 rfl

theorem digitChar_toNat : ∀ d < 10, (digitChar d).toNat - 48 = d := by decide

theorem digitChar_class : ∀ d < 10, NotCloseNl (digitChar d) ∧ digitChar d ≠ '-' := by
  unfold NotCloseNl; decide

theorem undec_snoc (xs : List Char) (c : Char) : undec (xs ++ [c]) = undec xs * 10 + (c.toNat - 48) := by
  simp [undec, List.foldl_append]

theorem decF_spec : ∀ (f n : Nat), n < f → undec (decF f n) = n ∧ ∀ c ∈ decF f n, NotCloseNl c ∧ c ≠ '-' := by
  intro f
  induction f with
  | zero => intro n h; exact absurd h (Nat.not_lt_zero n)
  | succ f ih =>
    intro n hf
    rw [decF]
    split
    · rename_i h10
      exact ⟨by simpa [undec] using digitChar_toNat n h10,
        fun c hc => List.mem_singleton.mp hc ▸ digitChar_class n h10⟩
    · rename_i h10
      have hlt : n / 10 < n := Nat.div_lt_self (by omega) (by decide)
      obtain ⟨hu, hc⟩ := ih (n / 10) (Nat.lt_of_lt_of_le hlt (Nat.le_of_lt_succ hf))
      have h10' : n % 10 < 10 := Nat.mod_lt n (by decide)
      refine ⟨by rw [undec_snoc, hu, digitChar_toNat _ h10']; exact Nat.div_add_mod' n 10, fun c hc' => ?_⟩
      rcases List.mem_append.mp hc' with h | h
      · exact hc c h
      · exact List.mem_singleton.mp h ▸ digitChar_class _ h10'

theorem undec_dec (n : Nat) : undec (dec n) = n := (decF_spec _ _ (Nat.lt_succ_self n)).1

theorem dec_chars (n : Nat) : ∀ c ∈ dec n, NotCloseNl c := fun c hc => ((decF_spec _ _ (Nat.lt_succ_self n)).2 c hc).1

theorem dec_head_ne_minus (n : Nat) (r : List Char) : dec n ≠ '-' :: r := fun h =>
  ((decF_spec _ _ (Nat.lt_succ_self n)).2 '-' (by show '-' ∈ dec n; rw [h]; exact List.mem_cons_self)).2 rfl

theorem decInt_chars (i : Int) : ∀ c ∈ decInt i, NotCloseNl c := by
  intro c hc
  simp only [decInt] at hc
  split at hc
  · rcases List.mem_cons.mp hc with rfl | hc
    · exact ⟨by decide, by decide⟩
    · exact dec_chars _ c hc
  · exact dec_chars _ c hc

theorem undecInt_decInt (i : Int) : undecInt (decInt i) = i := by
  have hd : undecInt (dec i.natAbs) = (undec (dec i.natAbs) : Int) := by
    unfold undecInt
    split
    · rename_i h; exact absurd h (dec_head_ne_minus _ _)
    · rfl
  simp only [decInt]
  split
  · simp only [undecInt, undec_dec]; omega
  · rw [hd, undec_dec]; omega

/-! ## the printed prefix and its parser -/

/-- `p` printed in front of `rest`: the text a reader parses back into `p`. -/
def Prefix.pre : Prefix → List Char → List Char
  | .pid p, rest => '[' :: (dec p ++ ']' :: rest)
  | .pidCid p c, rest => '[' :: (dec p ++ ']' :: '[' :: (decInt c ++ ']' :: rest))
  | _, rest => rest

theorem Prefix.pre_append (p : Prefix) (a b : List Char) : p.pre a ++ b = p.pre (a ++ b) := by
  cases p <;> simp [Prefix.pre]

theorem Prefix.pre_noNl (p : Prefix) {rest : List Char} (h : '\n' ∉ rest) : '\n' ∉ p.pre rest := by
  cases p <;> simp [Prefix.pre, h, noNl_of_notCloseNl (dec_chars _), noNl_of_notCloseNl (decInt_chars _)]

theorem takeWhile_notClose (a rest : List Char) (h : ∀ c ∈ a, NotCloseNl c) :
    (a ++ ']' :: rest).takeWhile notClose = a ∧ (a ++ ']' :: rest).dropWhile notClose = ']' :: rest := by
  induction a with
  | nil => simp [notClose]
  | cons c a ih =>
    have hc : notClose c = true := by simp [notClose, (h c (by simp)).1]
    have := ih (fun c hc => h c (List.mem_cons_of_mem _ hc))
    simp [hc, this.1, this.2]

theorem parseBody_pre (p : Prefix) (hp : p ≠ .bad) (rest : List Char) (h : rest.head? ≠ some '[') :
    parseBody (p.pre rest) = p := by
  -- not named below: `simp` passes the `'[' :: _` patterns of `parseBody` by finding this among the hypotheses
  have hrest : ∀ r2, rest ≠ '[' :: r2 := fun r2 e => h (by rw [e]; rfl)
  cases p with
  | bad => exact absurd rfl hp
  | none =>
    simp only [Prefix.pre, parseBody]
  | pid pid =>
    obtain ⟨h1, h2⟩ := takeWhile_notClose (dec pid) rest (dec_chars pid)
    simp only [Prefix.pre, parseBody, h1, h2, undec_dec]
  | pidCid pid cid =>
    obtain ⟨h1, h2⟩ := takeWhile_notClose (dec pid) ('[' :: (decInt cid ++ ']' :: rest)) (dec_chars pid)
    obtain ⟨h3, h4⟩ := takeWhile_notClose (decInt cid) rest (decInt_chars cid)
    simp only [Prefix.pre, parseBody, h2, h1, h3, h4, undec_dec, undecInt_decInt]

/-! ## the prefixes the extracted formats produce -/

/-- This evaluates the extracted format literals: a gate. `sp = []`: Println with a context.Context leaves the
space after the prefix to `Sprintln`. -/
theorem prefix_cases (pid : Nat) (ctx : Ctx) :
    (ctx.expected pid = .none ∧ printfPrefix pid ctx = [] ∧ printlnPrefix pid ctx = none) ∨
    (ctx.expected pid ≠ .none ∧ printfPrefix pid ctx = (ctx.expected pid).pre [' '] ∧
      ∃ sp, printlnPrefix pid ctx = some ((ctx.expected pid).pre sp) ∧ (sp = [] ∨ sp = [' '])) := by
  cases ctx
  case ctxWithout | other => exact .inl ⟨rfl, rfl, rfl⟩
  all_goals
    simp only [printlnPrefix, printfPrefix, Ctx.seen, Gen.Logger.fallbackPassesOriginalCtx, if_true,
      printlnPrefixSeen, printfPrefixSeen, lit, Gen.Logger.formatLits, Gen.Logger.formatfLits,
      Gen.Logger.contextFormatLits, Gen.Logger.contextFormatfLits, List.getD_cons_zero, List.getD_cons_succ]
    -- a literal is `String.ofList [..]` to the kernel: the library's theorem reads its characters
    -- off, where evaluating `String.toList` would run the UTF-8 decoder
    repeat rw [String.toList_ofList]
  · exact .inr ⟨nofun, rfl, _, rfl, .inr rfl⟩
  · exact .inr ⟨nofun, rfl, _, rfl, .inr rfl⟩
  · exact .inr ⟨nofun, rfl, _, rfl, .inl rfl⟩

/-! ## one line -/

theorem sprintln_cons (p : List Char) (ops : List (List Char)) :
    ∃ c rest, sprintln (p :: ops) = p ++ c :: rest ∧ (c = ' ' ∨ c = '\n') := by
  cases ops with
  | nil => exact ⟨'\n', [], rfl, Or.inr rfl⟩
  | cons a as => exact ⟨' ', sprintln (a :: as), rfl, Or.inl rfl⟩

theorem ensureNl_prefix (p : List Char) (msg : List Char) :
    ∃ rest, ensureNl (p ++ msg) = p ++ rest := by
  simp only [ensureNl]
  split
  · exact ⟨msg, rfl⟩
  · exact ⟨msg ++ ['\n'], by simp⟩

theorem body_prefixed (pid : Nat) (ctx : Ctx) (call : Call) (h : ctx.expected pid ≠ .none) :
    ∃ c rest, body pid ctx call = (ctx.expected pid).pre (c :: rest) ∧ (c = ' ' ∨ c = '\n') := by
  obtain ⟨hn, _⟩ | ⟨_, hf, sp, hl, hsp⟩ := prefix_cases pid ctx
  · exact absurd hn h
  · cases call with
    | println ops =>
      obtain ⟨c, rest, hs, hc⟩ := sprintln_cons ((ctx.expected pid).pre sp) ops
      simp only [body, hl, hs, Prefix.pre_append]
      rcases hsp with rfl | rfl
      · exact ⟨c, rest, rfl, hc⟩
      · exact ⟨' ', c :: rest, rfl, .inl rfl⟩
    | printf msg =>
      obtain ⟨rest, hr⟩ := ensureNl_prefix ((ctx.expected pid).pre [' ']) msg
      exact ⟨' ', rest, by simp only [body, hf]; rw [hr, Prefix.pre_append]; rfl, .inl rfl⟩

def Call.NoNl : Call → Prop
  | .println ops => ∀ o ∈ ops, '\n' ∉ o
  | .printf msg => '\n' ∉ msg

theorem sprintln_one_line (ops : List (List Char)) (h : ∀ o ∈ ops, '\n' ∉ o) :
    ∃ pre, sprintln ops = pre ++ ['\n'] ∧ '\n' ∉ pre := by
  induction ops with
  | nil => exact ⟨[], rfl, by simp⟩
  | cons a as ih =>
    cases as with
    | nil => exact ⟨a, rfl, h a (by simp)⟩
    | cons b bs =>
      obtain ⟨pre, hp, hn⟩ := ih (fun o ho => h o (List.mem_cons_of_mem _ ho))
      refine ⟨a ++ ' ' :: pre, by simp [sprintln, hp], ?_⟩
      simp only [List.mem_append, List.mem_cons, not_or]
      exact ⟨h a (by simp), by decide, hn⟩

theorem ensureNl_of_noNl {s : List Char} (h : '\n' ∉ s) : ensureNl s = s ++ ['\n'] :=
  if_neg fun hl => h (List.mem_of_getLast? hl)

theorem body_one_line (pid : Nat) (ctx : Ctx) (call : Call) (h : call.NoNl) :
    ∃ pre, body pid ctx call = pre ++ ['\n'] ∧ '\n' ∉ pre := by
  obtain ⟨_, hf, hl⟩ | ⟨_, hf, sp, hl, hsp⟩ := prefix_cases pid ctx
  · cases call with
    | println ops => simpa only [body, hl] using sprintln_one_line ops h
    | printf msg => exact ⟨msg, by simp only [body, hf, List.nil_append, ensureNl_of_noNl h], h⟩
  · cases call with
    | println ops =>
      simp only [body, hl]
      refine sprintln_one_line _ fun o ho => ?_
      rcases List.mem_cons.mp ho with rfl | ho
      · exact Prefix.pre_noNl _ (by rcases hsp with rfl | rfl <;> decide)
      · exact h o ho
    | printf msg =>
      have hn := Prefix.pre_noNl (ctx.expected pid) (rest := [' '] ++ msg) (by simpa using (show '\n' ∉ msg from h))
      exact ⟨_, by simp only [body, hf, Prefix.pre_append, ensureNl_of_noNl hn], hn⟩

/-! ## the head of a line -/

theorem label_noNl (l : Level) : '\n' ∉ l.label := by
  unfold Level.label Gen.Logger.logInfoLabel Gen.Logger.logTraceLabel Gen.Logger.logWarnLabel
    Gen.Logger.logErrorLabel
  repeat rw [String.toList_ofList]
  cases l <;> decide

theorem stripLabel_label (l : Level) (r : List Char) : stripLabel (l.label ++ r) = some r := by
  unfold stripLabel Level.label Gen.Logger.logInfoLabel Gen.Logger.logTraceLabel Gen.Logger.logWarnLabel
    Gen.Logger.logErrorLabel
  repeat rw [String.toList_ofList]
  cases l <;> rfl

theorem parseCid_line (lvl : Level) (ts : List Char) (hts : ts.length = 26) (b : List Char) :
    parseCid (lvl.label ++ ts ++ ' ' :: b) = parseBody b := by
  have hdrop : (ts ++ ' ' :: b).drop 26 = ' ' :: b := by rw [← hts]; exact List.drop_left
  simp only [parseCid, List.append_assoc, stripLabel_label, hdrop]

/-! ## reading lines back from the writer -/

/-- Split a byte stream at newlines: every newline terminates a line; an unterminated tail is dropped. -/
def splitNl : List Char → List Char → List (List Char)
  | _, [] => []
  | acc, c :: r => if c = '\n' then acc.reverse :: splitNl [] r else splitNl (c :: acc) r

theorem splitNl_line (acc pre rest : List Char) (h : '\n' ∉ pre) :
    splitNl acc (pre ++ '\n' :: rest) = (acc.reverse ++ pre) :: splitNl [] rest := by
  induction pre generalizing acc with
  | nil => simp [splitNl]
  | cons c pre ih =>
    have hc : c ≠ '\n' := fun e => h (by simp [e])
    have := ih (c :: acc) (fun hm => h (List.mem_cons_of_mem _ hm))
    simp [splitNl, hc, this]

end Oryx.Logger
