/-
  C13_session: what the writer model puts on the wire, read by the reader model of the peer, comes back
  as the same sequence of (type, payload). Composition of `writeMsg_wire` (Proofs.WsWrite), the reader's
  refinement of the spec receiver (Proofs.WsRead) and a fact about the spec receiver itself.
-/
import Oryx.Proofs.WsWrite
import Oryx.Proofs.WsRead
namespace Oryx.WsSession
open Oryx Oryx.Gen.Websocket Oryx.Spec.Ws Oryx.WsWrite

theorem _root_.Oryx.WsWrite.senderRole_eq_roleOf : senderRole = WsRead.roleOf := rfl

/-- The spec receiver on the frames `f :: fs` of one writer message, or of the rest of one whose earlier frames
left the receiver in state `st`: the message is delivered and reception goes on with what follows. -/
theorem recv_frames {isServer : Bool} (deflate : Bool) (cap : Nat) (rest : List Frame) (fs : List Frame) :
    ∀ {ty : Nat} {cz : Bool} (f : Frame) (st : Option Open), MsgShape isServer ty cz (f :: fs) →
      (∀ g ∈ f :: fs, g.payload.length < 2 ^ 63) → Fits deflate ty cz st.isSome →
      (openAfter st f).total + (fs.map (·.payload)).flatten.length ≤ cap →
      recvFrom (senderRole (!isServer)) deflate cap st (f :: fs ++ rest) =
        preOut [{ ty := (openAfter st f).ty, compressed := (openAfter st f).compressed,
                  data := (openAfter st f).acc ++ (fs.map (·.payload)).flatten }] []
          (recvFrom (senderRole (!isServer)) deflate cap none rest) := by
  induction fs with
  | nil =>
    intro ty cz f st hs hl hfit hcap
    have hf := hs.head
    rw [List.cons_append, recvFrom_data _ _ _ _ _ _ (hf.accepted (hl f (by simp)) hfit).2 (hf.opcode ▸ hfit.opcode),
      if_neg (by simpa using hcap), hf.fin]
    simp
  | cons g gs ih =>
    intro ty cz f st hs hl hfit hcap
    obtain ⟨hf, htl⟩ := hs.tail
    simp only [List.map_cons, List.flatten_cons, List.length_append] at hcap
    rw [List.cons_append, recvFrom_data _ _ _ _ _ _ (hf.accepted (hl f (by simp)) hfit).2 (hf.opcode ▸ hfit.opcode),
      if_neg (by omega), hf.fin, if_neg (by simp),
      ih g (some (openAfter st f)) htl (fun g' h' => hl g' (by simp [h'])) .cont
        (by rw [openAfter_total, Option.elim_some, htl.head.len]; omega)]
    simp [openAfter_some, List.append_assoc]

theorem recv_message {isServer : Bool} {ty : Nat} {cz : Bool} (deflate : Bool) (cap : Nat)
    (frames rest : List Frame) (hty : ty = TextMessage ∨ ty = BinaryMessage) (hdef : cz = true → deflate = true)
    (hs : MsgShape isServer ty cz frames) (hl : ∀ f ∈ frames, f.payload.length < 2 ^ 63)
    (hcap : (frames.map (·.payload)).flatten.length ≤ cap) :
    recvFrom (WsRead.roleOf (!isServer)) deflate cap none (frames ++ rest) =
      { recvFrom (WsRead.roleOf (!isServer)) deflate cap none rest with
          msgs := { ty := ty, compressed := cz, data := (frames.map (·.payload)).flatten } ::
            (recvFrom (WsRead.roleOf (!isServer)) deflate cap none rest).msgs } := by
  cases frames with
  | nil => exact absurd rfl hs.ne_nil
  | cons f fs =>
    have hf := hs.head
    rw [← senderRole_eq_roleOf, recv_frames deflate cap rest fs f none hs hl (.start hty hdef)
      (by simpa [openAfter_none, hf.len] using hcap)]
    simp [preOut, openAfter_none, hf.opcode, hf.rsv1]

def expectedMsg (deflate : Bool) (m : Nat × List WOp) : Spec.Ws.Msg :=
  { ty := m.1, compressed := deflate, data := (m.2.map WOp.data).flatten }

theorem writeMsgs_recv (cap : Nat) (msgs : List (Nat × List WOp)) {c0 : WConn} :
    ∀ (c : WConn), Ready c0 c →
      (∀ m ∈ msgs, (m.1 = TextMessage ∨ m.1 = BinaryMessage) ∧ (m.2.map WOp.data).flatten.length ≤ cap ∧
        (m.2.map WOp.data).flatten.length < 2 ^ 63) →
      ∃ c' fs, writeMsgs c msgs = (c', none) ∧ c'.wire = c.wire ++ serialiseAll fs ∧ (∀ f ∈ fs, f.WF) ∧
        recvFrom (WsRead.roleOf (!c0.isServer)) c0.deflate cap none fs =
          { msgs := msgs.map (expectedMsg c0.deflate), replies := [], fin := .more } := by
  induction msgs with
  | nil => intro c _ _; exact ⟨c, [], rfl, by simp [serialiseAll], by simp, by simp [recvFrom]⟩
  | cons m rest ih =>
    intro c hr hall
    obtain ⟨ty, ops⟩ := m
    obtain ⟨hty, hcap, hlen⟩ := hall (ty, ops) (by simp)
    obtain ⟨c2, frames, h1, hw⟩ := writeMsg_wire hr ty hty ops
    obtain ⟨c', fs, r1, r2, r3, r4⟩ := ih c2 (hr.trans hw.ready) (fun m hm => hall m (by simp [hm]))
    have hshape := hw.shape
    rw [hr.srv, hr.dfl] at hshape
    refine ⟨c', frames ++ fs, ?_, ?_, ?_, ?_⟩
    · simp only [writeMsgs, h1]; exact r1
    · rw [r2, hw.wire]
      simp [serialiseAll_eq_flatten, List.append_assoc]
    · intro f hf; rcases List.mem_append.mp hf with hf | hf
      · exact hw.wf hty hlen f hf
      · exact r3 f hf
    · rw [recv_message c0.deflate cap frames fs hty id hshape (hw.small hlen) (by rw [hw.payload]; exact hcap), r4]
      simp [expectedMsg, hw.payload]

theorem session_roundtrip (isServer deflate : Bool) (B : Nat) (hB : 1 ≤ B) (keys : List Bytes)
    (hK : ∀ k ∈ keys, k.length = 4) (msgs : List (Nat × List WOp))
    (hall : ∀ m ∈ msgs, (m.1 = TextMessage ∨ m.1 = BinaryMessage) ∧ (m.2.map WOp.data).flatten.length < 2 ^ 63) :
    let c0 : WConn := { isServer := isServer, bufSize := B, deflate := deflate, keys := keys }
    (writeMsgs c0 msgs).2 = none ∧
    ∃ t, WsRead.session (WsRead.init (!isServer) deflate 0 (writeMsgs c0 msgs).1.wire) = some t ∧
      t.msgs = msgs.map (fun m => WsRead.conv (expectedMsg deflate m)) ∧ t.final.replies = [] ∧ t.err = .ueof := by
  intro c0
  obtain ⟨c', fs, h1, h2, hwf, hrecv⟩ := writeMsgs_recv (WsRead.capOf 0) msgs c0 (.init rfl rfl hB hK)
    (fun m hm => ⟨(hall m hm).1, by have := (hall m hm).2; show _ ≤ 2 ^ 63 - 1; omega, (hall m hm).2⟩)
  have hwire : c'.wire = serialiseAll fs := by rw [h2]; simp [c0, WConn.wire]
  obtain ⟨t, t1, t2, t3, t4, _⟩ :=
    WsRead.session_frames (!isServer) deflate 0 (Int.le_refl 0) (by decide) fs hwf
  rw [hrecv] at t2 t3 t4
  refine ⟨by rw [h1], t, ?_, ?_, ?_, ?_⟩
  · rw [h1, hwire]; exact t1
  · rw [t2]; simp [c0]
  · exact t3
  · exact t4

end Oryx.WsSession
