/-
  Lemmas of the AMF0 model (C05, and what C03/C06/C07 reuse). The value decoder is rewritten marker
  by marker (`decodeVal_num` … `decodeVal_strict`, `decodeVal_unsupported`), the two container loops over
  their common body (`propBody`); from these, one pass over the decoder, a mutual induction on the fuel
  (`decodeVal_sat`, `decodeProps_sat`, `decodeElems_sat`), shows that with fuel above the input length it
  never panics and that whatever it returns is well formed, has consumed exactly `Size()` bytes and begins
  with the marker it marshals with: the postconditions `PostV` / `PostP`.
-/
import Oryx.Model.Amf0
import Oryx.Base.Sat
namespace Oryx.Amf0
open Oryx Oryx.Res

@[simp] theorem mNumber_eq : mNumber = 0 := rfl
@[simp] theorem mBoolean_eq : mBoolean = 1 := rfl
@[simp] theorem mString_eq : mString = 2 := rfl
@[simp] theorem mObject_eq : mObject = 3 := rfl
@[simp] theorem mNull_eq : mNull = 5 := rfl
@[simp] theorem mUndefined_eq : mUndefined = 6 := rfl
@[simp] theorem mEcmaArray_eq : mEcmaArray = 8 := rfl
@[simp] theorem mObjectEnd_eq : mObjectEnd = 9 := rfl
@[simp] theorem mStrictArray_eq : mStrictArray = 10 := rfl

@[simp] theorem utf8Enc_length (s : Bytes) : (utf8Enc s).length = utf8Size s := by
  unfold utf8Enc utf8Size
  split <;> simp

theorem utf8Enc_of_le {s : Bytes} (h : s.length ≤ 65535) : utf8Enc s = be 2 s.length ++ s := by
  unfold utf8Enc
  split
  · next h0 =>
    have : s.length = 0 := by omega
    have : s = [] := List.eq_nil_of_length_eq_zero this
    subst this; rfl
  · rfl

theorem utf8Dec_enc {s : Bytes} (h : s.length ≤ 65535) (rest : Bytes) :
    utf8Dec (utf8Enc s ++ rest) = ok (s, rest) := by
  rw [utf8Enc_of_le h]
  have h2 : (be 2 s.length).length = 2 := be_length 2 _
  have hlt : s.length < 256 ^ 2 := by omega
  unfold utf8Dec
  simp only [List.append_assoc]
  rw [take_append_len _ _ h2, drop_append_len _ _ h2, ofBE_be_of_lt hlt]
  have e1 : ¬ (2 + (s.length + rest.length) < 2) := by omega
  have e2 : ¬ (s.length + rest.length < s.length) := by omega
  simp [h2, e1, e2]

mutual
theorem encode_length : ∀ v : Val, (encode v).length = size v
  | .bool _ | .null | .undef | .eof => rfl
  | .num b => by simp [encode, size]
  | .str s => by simp [encode, size]; omega
  | .obj ps | .ecma _ ps => by simp [encode, size, eofBytes, encodeP_length ps]; omega
  | .strict ps => by simp [encode, size, encodeP_length ps]; omega
theorem encodeP_length : ∀ ps : Props, (encodeP ps).length = sizeP ps
  | .nil => by simp [encodeP, sizeP]
  | .cons k v tl => by simp [encodeP, sizeP, encode_length v, encodeP_length tl]; omega
end

theorem size_pos (v : Val) : 1 ≤ size v := by
  cases v <;> simp [size] <;> omega

theorem wf_str {s : Bytes} : wf (.str s) = true ↔ s.length ≤ 65535 := decide_eq_true_iff

theorem wf_ecma {c : Nat} {ps : Props} : wf (.ecma c ps) = true ↔ c < 4294967296 ∧ wfP ps = true := by
  simp only [wf, Bool.and_eq_true, decide_eq_true_iff]

theorem wf_strict {ps : Props} : wf (.strict ps) = true ↔ ps.length < 4294967296 ∧ wfP ps = true := by
  simp only [wf, Bool.and_eq_true, decide_eq_true_iff]

theorem wfP_cons {k : Bytes} {v : Val} {tl : Props} :
    wfP (.cons k v tl) = true ↔ k.length ≤ 65535 ∧ wf v = true ∧ wfP tl = true := by
  simp only [wfP, Bool.and_eq_true, decide_eq_true_iff, and_assoc]

theorem decodeVal_nil (fuel : Nat) : decodeVal (fuel+1) [] = err .generic := rfl

theorem decodeVal_num (fuel : Nat) (q : Bytes) : decodeVal (fuel+1) (0 :: q) =
    if q.length < 8 then err .generic else ok (.num (UInt64.ofNat (ofBE (q.take 8))), q.drop 8) :=
  ite_congr (propext (by simp only [List.length_cons]; omega)) (fun _ => rfl) (fun _ => rfl)

theorem decodeVal_bool (fuel : Nat) (b : UInt8) (q : Bytes) :
    decodeVal (fuel+1) (1 :: b :: q) = ok (.bool (b != 0), q) := rfl

theorem decodeVal_str (fuel : Nat) (q : Bytes) : decodeVal (fuel+1) (2 :: q) =
    utf8Dec q >>= fun x => ok (.str x.1, x.2) := rfl

theorem decodeVal_obj (fuel : Nat) (q : Bytes) : decodeVal (fuel+1) (3 :: q) =
    decodeProps fuel q >>= fun x => ok (.obj x.1, x.2) := rfl

theorem decodeVal_null (fuel : Nat) (q : Bytes) : decodeVal (fuel+1) (5 :: q) = ok (.null, q) := rfl

theorem decodeVal_undef (fuel : Nat) (q : Bytes) : decodeVal (fuel+1) (6 :: q) = ok (.undef, q) := rfl

theorem decodeVal_ecma (fuel : Nat) (q : Bytes) : decodeVal (fuel+1) (8 :: q) =
    if q.length < 4 then err .generic else
      decodeProps fuel (q.drop 4) >>= fun x => ok (.ecma (ofBE (q.take 4)) x.1, x.2) :=
  ite_congr (propext (by simp only [List.length_cons]; omega)) (fun _ => rfl) (fun _ => rfl)

theorem decodeElems_zero (fuel : Nat) (p : Bytes) : decodeElems fuel 0 p = ok (.nil, p) := by
  cases fuel <;> rfl

/-- The count-0 shortcut of the strict array returns what the counted loop returns for 0 anyway. -/
theorem decodeVal_strict (fuel : Nat) (q : Bytes) : decodeVal (fuel+1) (10 :: q) =
    if q.length < 4 then err .generic else
      decodeElems fuel (ofBE (q.take 4)) (q.drop 4) >>= fun x => ok (.strict x.1, x.2) := by
  refine ite_congr (propext (by simp only [List.length_cons]; omega)) (fun _ => rfl) (fun _ => ?_)
  by_cases h : ofBE (q.take 4) = 0
  · rw [h, decodeElems_zero]; rfl
  · simp only [h, if_false]; rfl

theorem decodeVal_num_append (fuel : Nat) {c : Bytes} (hc : c.length = 8) (q : Bytes) :
    decodeVal (fuel+1) (0 :: (c ++ q)) = ok (.num (UInt64.ofNat (ofBE c)), q) := by
  rw [decodeVal_num, if_neg (by rw [List.length_append, hc]; omega), take_append_len _ _ hc,
    drop_append_len _ _ hc]

theorem decodeVal_ecma_append (fuel : Nat) {c : Bytes} (hc : c.length = 4) (q : Bytes) :
    decodeVal (fuel+1) (8 :: (c ++ q)) = decodeProps fuel q >>= fun x => ok (.ecma (ofBE c) x.1, x.2) := by
  rw [decodeVal_ecma, if_neg (by rw [List.length_append, hc]; omega), take_append_len _ _ hc,
    drop_append_len _ _ hc]

theorem decodeVal_strict_append (fuel : Nat) {c : Bytes} (hc : c.length = 4) (q : Bytes) :
    decodeVal (fuel+1) (10 :: (c ++ q)) = decodeElems fuel (ofBE c) q >>= fun x => ok (.strict x.1, x.2) := by
  rw [decodeVal_strict, if_neg (by rw [List.length_append, hc]; omega), take_append_len _ _ hc,
    drop_append_len _ _ hc]

/-! Each `UnmarshalBinary` rejects a marker that is not its own (`objectEOF` wants a first byte 0). -/

theorem numberDec_marker {m : UInt8} (h : m ≠ 0) (q : Bytes) : numberDec (m :: q) = err .generic :=
  ite_eq_left_iff.2 fun _ => if_pos h

theorem booleanDec_marker {m : UInt8} (h : m ≠ 1) (q : Bytes) : booleanDec (m :: q) = err .generic := by
  cases q with
  | nil => rfl
  | cons => exact if_pos h

theorem stringDec_marker {m : UInt8} (h : m ≠ 2) (q : Bytes) : stringDec (m :: q) = err .generic :=
  if_pos h

theorem singleDec_marker {t m : UInt8} (h : m ≠ t) (v : Val) (q : Bytes) :
    singleDec t v (m :: q) = err .generic := if_pos h

theorem eofDec_marker {m : UInt8} (h : m ≠ 0) (q : Bytes) : eofDec (m :: q) = err .generic := by
  rcases q with _ | ⟨_, _ | ⟨_, _⟩⟩
  · rfl
  · rfl
  · exact if_pos (.inl h)

theorem decodeVal_unsupported {m : UInt8} (h0 : m ≠ 0) (h1 : m ≠ 1) (h2 : m ≠ 2) (h3 : m ≠ 3) (h5 : m ≠ 5)
    (h6 : m ≠ 6) (h8 : m ≠ 8) (h10 : m ≠ 10) (fuel : Nat) (q : Bytes) :
    decodeVal (fuel+1) (m :: q) = err .generic := by
  simp only [decodeVal]
  split
  · exact numberDec_marker h0 q
  · exact booleanDec_marker h1 q
  · exact stringDec_marker h2 q
  · exact singleDec_marker h5 _ q
  · exact singleDec_marker h6 _ q
  · exact eofDec_marker h0 q
  · rfl
  · exact if_pos h3
  · exact ite_eq_left_iff.2 fun _ => if_pos h8
  · exact ite_eq_left_iff.2 fun _ => if_pos h10

theorem decodeVal_cases (fuel : Nat) (m : UInt8) (q : Bytes) :
    m = 0 ∨ m = 1 ∨ m = 2 ∨ m = 3 ∨ m = 5 ∨ m = 6 ∨ m = 8 ∨ m = 10 ∨
      decodeVal (fuel+1) (m :: q) = err .generic := by
  refine Classical.byContradiction fun h => ?_
  simp only [not_or] at h
  obtain ⟨h0, h1, h2, h3, h5, h6, h8, h10, e⟩ := h
  exact e (decodeVal_unsupported h0 h1 h2 h3 h5 h6 h8 h10 fuel q)

/-- What both container loops do with one property once its key `k` is read: decode the value at the
front of `p1`, advance by its `Size()`, let `rec` read the remaining properties. -/
def propBody (fuel : Nat) (k p1 : Bytes) (rec : Bytes → Res (Props × Bytes)) : Res (Props × Bytes) := do
  let (a, _) ← decodeVal fuel p1
  let p2 ← sliceFrom p1 (size a)
  let (tl, r) ← rec p2
  pure (.cons k a tl, r)

theorem decodeProps_succ (fuel : Nat) (p : Bytes) : decodeProps (fuel+1) p =
    utf8Dec p >>= fun x =>
      match x.2 with
      | [] => err .generic
      | m :: q =>
        if x.1.length = 0 ∧ Gen.Amf0.discovery m.toNat = .objectEOF then ok (.nil, q)
        else propBody fuel x.1 x.2 (decodeProps fuel) := rfl

theorem decodeElems_succ (fuel n : Nat) (p : Bytes) : decodeElems (fuel+1) (n+1) p =
    utf8Dec p >>= fun x => propBody fuel x.1 x.2 (decodeElems fuel n) := rfl

theorem propBody_err {fuel : Nat} {k p1 : Bytes} {rec : Bytes → Res (Props × Bytes)} {e : EK}
    (h : decodeVal fuel p1 = err e) : propBody fuel k p1 rec = err e := by
  simp only [propBody, h, Res.bind_err]

theorem decodeProps_child_err {k : Bytes} (hk : k.length ≤ 65535) {m : UInt8} {tl : Bytes}
    (hne : ¬ (k.length = 0 ∧ Gen.Amf0.discovery m.toNat = .objectEOF))
    (hv : ∀ f, decodeVal (f+1) (m :: tl) = err .generic) {fuel : Nat} (hf : 2 ≤ fuel) :
    decodeProps fuel (utf8Enc k ++ m :: tl) = err .generic := by
  obtain ⟨f, rfl⟩ : ∃ f, fuel = f + 1 + 1 := ⟨fuel - 2, by omega⟩
  simp only [decodeProps_succ, utf8Dec_enc hk, Res.bind_ok, hne, if_false, propBody_err (hv f)]

theorem decodeElems_child_err {k : Bytes} (hk : k.length ≤ 65535) {p1 : Bytes}
    (hv : ∀ f, decodeVal (f+1) p1 = err .generic) {fuel : Nat} (hf : 2 ≤ fuel) (n : Nat) :
    decodeElems fuel (n+1) (utf8Enc k ++ p1) = err .generic := by
  obtain ⟨f, rfl⟩ : ∃ f, fuel = f + 1 + 1 := ⟨fuel - 2, by omega⟩
  simp only [decodeElems_succ, utf8Dec_enc hk, Res.bind_ok, propBody_err (hv f)]

/-- `r` is `p` without its first `n` bytes, and `p` has that many. -/
structure Skip (n : Nat) (p r : Bytes) : Prop where
  le : n ≤ p.length
  eq : r = p.drop n

theorem Skip.zero {p : Bytes} : Skip 0 p p := ⟨Nat.zero_le _, rfl⟩

theorem Skip.drop {n : Nat} {p : Bytes} (h : n ≤ p.length) : Skip n p (p.drop n) := ⟨h, rfl⟩

theorem Skip.cons {n : Nat} {m : UInt8} {q r : Bytes} (h : Skip n q r) : Skip (n + 1) (m :: q) r :=
  ⟨Nat.succ_le_succ h.le, h.eq⟩

theorem Skip.cons' {n sz : Nat} {m : UInt8} {q r : Bytes} (hs : sz = n + 1) (h : Skip n q r) :
    Skip sz (m :: q) r := hs ▸ h.cons

theorem Skip.trans {n m : Nat} {p q r : Bytes} (h1 : Skip n p q) (h2 : Skip m q r) : Skip (n + m) p r := by
  obtain ⟨h1, rfl⟩ := h1
  obtain ⟨h2, rfl⟩ := h2
  rw [List.length_drop] at h2
  exact ⟨by omega, List.drop_drop⟩

theorem utf8Dec_sat (p : Bytes) : (utf8Dec p).Sat fun x => Skip (utf8Size x.1) p x.2 ∧ x.1.length ≤ 65535 := by
  unfold utf8Dec
  refine sat_ite (fun _ => sat_err) fun h1 => sat_ite (fun _ => sat_err) fun h2 => sat_ok ?_
  have hb : ofBE (p.take 2) < 65536 := ofBE_take_lt 2 p
  rw [List.length_drop] at h2
  have hk : ((p.drop 2).take (ofBE (p.take 2))).length = ofBE (p.take 2) := by
    rw [List.length_take, List.length_drop]; omega
  rw [utf8Size, hk]
  exact ⟨⟨by omega, List.drop_drop⟩, by omega⟩

structure PostV (p : Bytes) (x : Val × Bytes) : Prop where
  skip : Skip (size x.1) p x.2
  wf : wf x.1 = true
  head : p.head? = (encode x.1).head?

/-- `n`: the bytes of terminator that follow the property list (3 for the object-end, 0 in the counted loop). -/
structure PostP (n : Nat) (p : Bytes) (x : Props × Bytes) : Prop where
  skip : Skip (sizeP x.1 + n) p x.2
  wf : wfP x.1 = true

/-- One property, for both loops; `L` is what else the loop knows of the remaining properties. The slice
`p[a.Size():]` is in range because the child decoder consumed `Size()` bytes of `p1`. -/
theorem propBody_spec {fuel n : Nat} {k p p1 : Bytes} {rec : Bytes → Res (Props × Bytes)}
    {L : Props → Prop} (hk : Skip (utf8Size k) p p1) (hkl : k.length ≤ 65535)
    (hV : (decodeVal fuel p1).Sat (PostV p1))
    (hR : ∀ p2 : Bytes, p2.length < p1.length → (rec p2).Sat fun x => PostP n p2 x ∧ L x.1) :
    (propBody fuel k p1 rec).Sat fun x => PostP n p x ∧ ∃ a tl, x.1 = .cons k a tl ∧ L tl := by
  refine hV.bind fun ⟨a, ra⟩ ⟨ha, hwa, _⟩ => ?_
  have hs : size a ≤ p1.length := ha.le
  refine (sliceFrom_sat p1 (size a) hs).bind fun p2 h2 => ?_
  subst h2
  have hl : (p1.drop (size a)).length < p1.length := by
    rw [List.length_drop]; have := size_pos a; omega
  refine (hR _ hl).bind fun ⟨tl, r⟩ ⟨⟨ht, hwt⟩, hL⟩ => sat_ok ⟨⟨?_, ?_⟩, a, tl, rfl, hL⟩
  · have := (hk.trans (Skip.drop hs)).trans ht
    rwa [← Nat.add_assoc] at this
  · exact wfP_cons.2 ⟨hkl, hwa, hwt⟩

/-- A key is at least two bytes, so what follows it is within the fuel of the recursive calls. -/
theorem Skip.key_lt {fuel : Nat} {p k p1 : Bytes} (hp : p.length < fuel + 1) (h : Skip (utf8Size k) p p1) :
    p1.length < fuel := by
  rw [h.eq, List.length_drop]; have := h.le; simp only [utf8Size] at this ⊢; omega

mutual
theorem decodeVal_sat {fuel : Nat} {p : Bytes} (hp : p.length < fuel) : (decodeVal fuel p).Sat (PostV p) := by
  match fuel, p, hp with
  | _+1, [], _ => exact sat_err
  | fuel+1, m :: q, hp =>
    have hq : q.length < fuel := Nat.lt_of_succ_lt_succ hp
    have hd : (q.drop 4).length < fuel := by rw [List.length_drop]; omega
    rcases decodeVal_cases fuel m q with rfl | rfl | rfl | rfl | rfl | rfl | rfl | rfl | e
    · rw [decodeVal_num]; split
      · exact sat_err
      · exact sat_ok ⟨(Skip.drop (by omega)).cons, rfl, rfl⟩
    · cases q with
      | nil => exact sat_err
      | cons x r => exact sat_ok ⟨Skip.zero.cons.cons, rfl, rfl⟩
    · exact (utf8Dec_sat q).bind fun x ⟨hs, hl⟩ =>
        sat_ok ⟨hs.cons' (Nat.add_comm 1 _), wf_str.2 hl, rfl⟩
    · exact (decodeProps_sat hq).bind fun x ⟨hs, hw⟩ => sat_ok ⟨hs.cons' (by simp only [size]; omega), hw, rfl⟩
    · exact sat_ok ⟨Skip.zero.cons, rfl, rfl⟩
    · exact sat_ok ⟨Skip.zero.cons, rfl, rfl⟩
    · rw [decodeVal_ecma]; split
      · exact sat_err
      · exact (decodeProps_sat hd).bind fun x ⟨hs, hw⟩ => sat_ok
          ⟨((Skip.drop (by omega)).trans hs).cons' (by simp only [size]; omega),
           wf_ecma.2 ⟨ofBE_take_lt 4 q, hw⟩, rfl⟩
    · rw [decodeVal_strict]; split
      · exact sat_err
      · exact (decodeElems_sat hd _).bind fun x ⟨⟨hs, hw⟩, hn⟩ => sat_ok
          ⟨((Skip.drop (by omega)).trans hs).cons' (by simp only [size]; omega),
           wf_strict.2 ⟨hn ▸ ofBE_take_lt 4 q, hw⟩, rfl⟩
    · rw [e]; exact sat_err
theorem decodeProps_sat {fuel : Nat} {p : Bytes} (hp : p.length < fuel) : (decodeProps fuel p).Sat (PostP 3 p) := by
  match fuel, hp with
  | fuel+1, hp =>
    rw [decodeProps_succ]
    refine (utf8Dec_sat p).bind fun ⟨k, p1⟩ ⟨hk, hkl⟩ => ?_
    cases p1 with
    | nil => exact sat_err
    | cons m q =>
      dsimp only
      split
      · next hc =>
        rw [show utf8Size k = 2 by simp only [utf8Size, hc.1]] at hk
        exact sat_ok ⟨hk.trans (n := 2) (m := 1) Skip.zero.cons, rfl⟩
      · exact (propBody_spec (L := fun _ => True) hk hkl (decodeVal_sat (hk.key_lt hp)) fun p2 h2 =>
          (decodeProps_sat (Nat.lt_trans h2 (hk.key_lt hp))).imp fun _ h => ⟨h, trivial⟩).imp fun _ h => h.1
theorem decodeElems_sat {fuel : Nat} {p : Bytes} (hp : p.length < fuel) (n : Nat) :
    (decodeElems fuel n p).Sat fun x => PostP 0 p x ∧ x.1.length = n := by
  match fuel, n, hp with
  | fuel, 0, _ => rw [decodeElems_zero]; exact sat_ok ⟨⟨Skip.zero, rfl⟩, rfl⟩
  | fuel+1, n+1, hp =>
    rw [decodeElems_succ]
    refine (utf8Dec_sat p).bind fun ⟨k, p1⟩ ⟨hk, hkl⟩ => ?_
    exact (propBody_spec (L := fun tl => tl.length = n) hk hkl (decodeVal_sat (hk.key_lt hp)) fun p2 h2 =>
      decodeElems_sat (Nat.lt_trans h2 (hk.key_lt hp)) n).imp
        fun _ ⟨h, a, tl, e, hn⟩ => ⟨h, by rw [e, Props.length, hn]⟩
end

theorem decode_cons (m : UInt8) (q : Bytes) : decode (m :: q) = decodeVal (q.length + 1 + 1) (m :: q) := rfl

theorem decode_sat (bs : Bytes) : (decode bs).Sat (PostV bs) := decodeVal_sat (Nat.lt_succ_self _)

theorem decode_skip {bs : Bytes} {v : Val} {r : Bytes} (h : decode bs = ok (v, r)) : Skip (size v) bs r :=
  ((decode_sat bs).of_ok h).skip

theorem decode_wf {bs : Bytes} {v : Val} {r : Bytes} (h : decode bs = ok (v, r)) : wf v = true :=
  ((decode_sat bs).of_ok h).wf

theorem decode_ne_panic (bs : Bytes) : decode bs ≠ .panic := (decode_sat bs).ne_panic

end Oryx.Amf0
