/-
  C03 (RTMP packet layer), part 1: `Size()` is the marshalled length; every `UnmarshalBinary` in one
  pass (`Res.Sat`): it does not panic and returns a packet of its own type; the four fixed-width control
  decoders in closed form; `DecodeMessage` and the typed waits never panic.
-/
import Oryx.Model.RtmpPkt
import Oryx.Base.Sat
import Oryx.Proofs.Amf0
namespace Oryx
open Res

/-- A field is read and the input advanced by the field's `Size()`: `v ← dec p; p ← p[v.Size():]`. -/
theorem Res.Sat.field {α β} {p : Bytes} {dec : Res α} {sz : α → Nat} {k : α → Bytes → Res β} {Q : β → Prop}
    (hd : dec.Sat fun a => sz a ≤ p.length) (hk : ∀ a r, r.length + sz a = p.length → (k a r).Sat Q) :
    (dec >>= fun a => sliceFrom p (sz a) >>= k a).Sat Q :=
  hd.bind fun a ha => (sliceFrom_sat p (sz a) ha).bind fun r hr =>
    hk a r (by rw [hr, List.length_drop]; omega)

namespace RtmpPkt
open Oryx.Amf0 Oryx.Rtmp

theorem optEnc_length (o : Option Val) : (optEnc o).length = optSize o := by
  cases o <;> simp only [optEnc, optSize, encode_length, List.length_nil]

theorem ObjCall.marshal_length (c : ObjCall) : c.marshal.length = c.size := by
  unfold ObjCall.marshal ObjCall.size
  cases c.args <;> simp only [List.length_append, encode_length, List.length_nil, Nat.add_assoc]

theorem VarCall.marshal_length (c : VarCall) : c.marshal.length = c.size := by
  simp only [VarCall.marshal, VarCall.size, List.length_append, encode_length, optEnc_length, Nat.add_assoc]

theorem userControl_marshal_length (evt d x : Nat) :
    (Packet.userControl evt d x).marshal.length = userControlSize evt := by
  simp only [Packet.marshal, userControlSize, List.length_append, apply_ite List.length, be_length, List.length_nil,
    Nat.add_assoc]

theorem marshal_length (p : Packet) : p.marshal.length = p.size := by
  cases p with
  | userControl e d x => exact userControl_marshal_length e d x
  | _ =>
    simp only [Packet.marshal, Packet.size, List.length_append, ObjCall.marshal_length, VarCall.marshal_length,
      encode_length, optEnc_length, be_length, Nat.add_assoc]

theorem userControlSize_ge (evt : Nat) : 3 ≤ userControlSize evt := by
  unfold userControlSize; split <;> omega

theorem ObjCall.size_pos (c : ObjCall) : 1 ≤ c.size := by
  simp only [ObjCall.size, Amf0.size]; omega

theorem VarCall.size_pos (c : VarCall) : 1 ≤ c.size := by
  simp only [VarCall.size, Amf0.size]; omega

theorem Packet.size_pos (p : Packet) : 1 ≤ p.size := by
  cases p with
  | connect c | connectRes c => exact c.size_pos
  | createStream c => exact c.size_pos
  | createStreamRes c _ | play c _ | call c _ => exact Nat.le_trans c.size_pos (Nat.le_add_right ..)
  | publish c _ _ => exact Nat.le_trans c.size_pos (Nat.le_trans (Nat.le_add_right ..) (Nat.le_add_right ..))
  | setChunkSize _ | winAck _ => exact (by decide : 1 ≤ 4)
  | setPeerBw _ _ => exact (by decide : 1 ≤ 4 + 1)
  | userControl e _ _ => exact Nat.le_trans (by decide) (userControlSize_ge e)

theorem marshal_length_pos (p : Packet) : 0 < p.marshal.length := by
  rw [marshal_length]; exact p.size_pos

theorem VarCall.wf_iff {c : VarCall} : c.wf = true ↔ c.name.length ≤ 65535 ∧ optWf c.obj = true := by
  simp only [VarCall.wf, Bool.and_eq_true, decide_eq_true_eq]

theorem ObjCall.wf_iff {c : ObjCall} :
    c.wf = true ↔ c.name.length ≤ 65535 ∧ wfP c.obj = true ∧ ∀ a, c.args = some a → wfP a = true := by
  simp only [ObjCall.wf, Bool.and_eq_true, decide_eq_true_eq, and_assoc]
  cases c.args <;> simp

theorem VarCall.wf_name {c : VarCall} (h : c.wf = true) : c.name.length ≤ 65535 := (VarCall.wf_iff.mp h).1

theorem ObjCall.wf_name {c : ObjCall} (h : c.wf = true) : c.name.length ≤ 65535 := (ObjCall.wf_iff.mp h).1

theorem Packet.wf_iff {p : Packet} : p.wf = true ↔
    match p with
    | .connect c => c.wf = true ∧ c.name = Gen.Rtmp.commandConnectBytes ∧ c.tid = one
    | .connectRes c => c.wf = true ∧ c.name = Gen.Rtmp.commandResultBytes
    | .createStream c => c.wf = true
    | .createStreamRes c _ => c.wf = true ∧ c.obj.isSome = true
    | .publish c sn st => c.wf = true ∧ c.obj.isSome = true ∧ sn.length ≤ 65535 ∧ st.length ≤ 65535
    | .play c sn => c.wf = true ∧ c.obj.isSome = true ∧ sn.length ≤ 65535
    | .call c a => c.wf = true ∧ optWf a = true ∧ (c.obj.isSome = true ∨ a = none)
    | .setChunkSize v | .winAck v => v < 4294967296
    | .setPeerBw v l => v < 4294967296 ∧ l < 256
    | .userControl evt d x => evt < 65536 ∧ d < 4294967296 ∧ x < 4294967296 ∧
        (evt = Gen.Rtmp.EventTypeFmsEvent0 → d < 256) ∧ (evt ≠ Gen.Rtmp.EventTypeSetBufferLength → x = 0) := by
  cases p <;>
    simp only [Packet.wf, Bool.and_eq_true, Bool.or_eq_true, decide_eq_true_eq, Option.isNone_iff_eq_none, and_assoc]

theorem Kind.cid_range (k : Kind) : 2 ≤ k.cid ∧ k.cid < 64 := by cases k <;> decide

theorem Kind.msgType_lt (k : Kind) : k.msgType < 256 := by cases k <;> decide

theorem Kind.of_ctl (k : Kind) : (k.msgType = 1 → k = .setChunkSize) ∧ (k.msgType = 5 → k = .winAck) ∧
    (k.msgType = 4 → k = .userControl) := by
  cases k <;> decide

theorem strDec_sat (p : Bytes) : (strDec p).Sat fun s => Amf0.size (.str s) ≤ p.length := by
  unfold strDec
  split
  · exact sat_err
  · next m q =>
    refine sat_ite (fun _ => sat_err) fun _ => (utf8Dec_sat q).bind fun sr h => sat_ok ?_
    have := h.1.le
    simp only [Amf0.size, List.length_cons]; omega

theorem numDec_sat (p : Bytes) : (numDec p).Sat fun t => Amf0.size (.num t) ≤ p.length := by
  unfold numDec
  refine sat_ite (fun _ => sat_err) fun h => ?_
  split
  · exact sat_ite (fun _ => sat_err) fun _ => sat_ok (by simp only [Amf0.size]; omega)
  · exact sat_err

theorem objDec_sat (p : Bytes) : (objDec p).Sat fun ps => Amf0.size (.obj ps) ≤ p.length := by
  unfold objDec
  split
  · exact sat_err
  · next m q =>
    refine sat_ite (fun _ => sat_err) fun _ =>
      (decodeProps_sat (Nat.lt_succ_self _)).bind fun pr h => sat_ok ?_
    have := h.skip.le
    simp only [Amf0.size, List.length_cons]; omega

theorem anyDec_sat (p : Bytes) : (anyDec p).Sat fun v => Amf0.size v ≤ p.length :=
  (decode_sat p).bind fun _ h => sat_ok h.skip.le

theorem u32_ok {b : Bytes} (h : 4 ≤ b.length) : u32 b = ok (ofBE (b.take 4)) := by
  unfold u32; rw [if_neg (by omega)]

theorem u32_at {b : Bytes} {n : Nat} (h : n + 4 ≤ b.length) : sliceFrom b n >>= u32 = ok (ofBE ((b.drop n).take 4)) := by
  rw [sliceFrom_of_le (Nat.le_of_add_right_le h)]
  exact u32_ok (by rw [List.length_drop]; exact Nat.le_sub_of_add_le' h)

theorem ObjCall.unmarshal_sat (data : Bytes) : (ObjCall.unmarshal data).Sat fun _ => True := by
  unfold ObjCall.unmarshal
  refine (strDec_sat _).field fun name p1 _ => ?_
  refine (numDec_sat _).field fun tid p2 _ => ?_
  refine (objDec_sat _).field fun obj p3 _ => ?_
  exact sat_ite (fun _ => sat_ok trivial) fun _ => (objDec_sat _).bind fun _ _ => sat_ok trivial

/-- What makes the callers' `p[v.variantCallPacket.Size():]` safe. -/
theorem VarCall.unmarshal_sat (data : Bytes) : (VarCall.unmarshal data).Sat fun c => c.size ≤ data.length := by
  unfold VarCall.unmarshal
  refine (strDec_sat _).field fun name p1 h1 => ?_
  refine (numDec_sat _).field fun tid p2 h2 => ?_
  refine sat_ite (fun _ => ?_) fun _ => sat_ok ?_
  · refine (anyDec_sat _).field fun v _ h3 => sat_ok ?_
    simp only [VarCall.size, optSize]; omega
  · simp only [VarCall.size, optSize]; omega

theorem unmarshal_setChunkSize (data : Bytes) : unmarshal .setChunkSize data =
    if data.length < 4 then err .generic else ok (.setChunkSize (ofBE (data.take 4))) := by
  rw [unmarshal]; split
  · rfl
  · rw [u32_ok (by omega)]; rfl

theorem unmarshal_winAck (data : Bytes) : unmarshal .winAck data =
    if data.length < 4 then err .generic else ok (.winAck (ofBE (data.take 4))) := by
  rw [unmarshal]; split
  · rfl
  · rw [u32_ok (by omega)]; rfl

theorem unmarshal_setPeerBw (data : Bytes) : unmarshal .setPeerBw data =
    if data.length < 5 then err .generic else ok (.setPeerBw (ofBE (data.take 4)) (data.getD 4 0).toNat) := by
  rw [unmarshal]; split
  · rfl
  · rw [u32_ok (by omega), idx_getD (by omega) 0]; rfl

theorem unmarshal_userControl (data : Bytes) : unmarshal .userControl data =
    if data.length < 3 ∨ data.length < userControlSize (ofBE (data.take 2)) then err .generic else
    ok (.userControl (ofBE (data.take 2))
      (if ofBE (data.take 2) = Gen.Rtmp.EventTypeFmsEvent0 then (data.getD 2 0).toNat else ofBE ((data.drop 2).take 4))
      (if ofBE (data.take 2) = Gen.Rtmp.EventTypeSetBufferLength then ofBE ((data.drop 6).take 4) else 0)) := by
  rw [unmarshal]
  generalize ofBE (data.take 2) = evt
  by_cases h3 : data.length < 3
  · rw [if_pos h3, if_pos (.inl h3)]
  by_cases hs : data.length < userControlSize evt
  · rw [if_neg h3, if_pos (Or.inr hs : _ ∨ _)]; exact if_pos hs
  rw [if_neg h3, if_neg (not_or.2 ⟨h3, hs⟩)]
  refine (if_neg hs).trans ?_
  -- `userControlSize evt` bytes are there; the two reads that follow stay inside them
  unfold userControlSize at hs
  have hd : (if evt = Gen.Rtmp.EventTypeFmsEvent0 then idx data 2 >>= fun b => pure b.toNat
      else sliceFrom data 2 >>= u32 : Res Nat) =
      ok (if evt = Gen.Rtmp.EventTypeFmsEvent0 then (data.getD 2 0).toNat else ofBE ((data.drop 2).take 4)) := by
    split
    · rw [idx_getD (by omega) 0]; rfl
    · next hf => rw [if_neg hf] at hs; exact u32_at (by omega)
  have hx : (if evt = Gen.Rtmp.EventTypeSetBufferLength then sliceFrom data 6 >>= u32 else pure 0 : Res Nat) =
      ok (if evt = Gen.Rtmp.EventTypeSetBufferLength then ofBE ((data.drop 6).take 4) else 0) := by
    split
    · next he => rw [if_pos he, if_neg (by rw [he]; decide)] at hs; exact u32_at (by omega)
    · rfl
  rw [hd, hx]; rfl

theorem unmarshal_sat (k : Kind) (data : Bytes) : (unmarshal k data).Sat fun p => p.kind = k := by
  cases k
  case connect =>
    rw [unmarshal]
    exact (ObjCall.unmarshal_sat _).bind fun c _ =>
      sat_ite (fun _ => sat_err) fun _ => sat_ite (fun _ => sat_err) fun _ => sat_ok rfl
  case connectRes =>
    rw [unmarshal]
    exact (ObjCall.unmarshal_sat _).bind fun c _ => sat_ite (fun _ => sat_err) fun _ => sat_ok rfl
  case createStream => rw [unmarshal]; exact (VarCall.unmarshal_sat _).bind fun c _ => sat_ok rfl
  case createStreamRes =>
    rw [unmarshal]; exact (VarCall.unmarshal_sat _).field fun c p _ => (numDec_sat p).bind fun _ _ => sat_ok rfl
  case publish =>
    rw [unmarshal]
    exact (VarCall.unmarshal_sat _).field fun c p _ => (strDec_sat p).field fun sn p' _ =>
      (strDec_sat p').bind fun _ _ => sat_ok rfl
  case play =>
    rw [unmarshal]
    exact (VarCall.unmarshal_sat _).field fun c p _ => (strDec_sat p).field fun sn _ _ => sat_ok rfl
  case call =>
    rw [unmarshal]
    exact (VarCall.unmarshal_sat _).field fun c p _ =>
      sat_ite (fun _ => (anyDec_sat p).bind fun _ _ => sat_ok rfl) fun _ => sat_ok rfl
  case setChunkSize => rw [unmarshal_setChunkSize]; exact sat_ite (fun _ => sat_err) fun _ => sat_ok rfl
  case winAck => rw [unmarshal_winAck]; exact sat_ite (fun _ => sat_err) fun _ => sat_ok rfl
  case setPeerBw => rw [unmarshal_setPeerBw]; exact sat_ite (fun _ => sat_err) fun _ => sat_ok rfl
  case userControl => rw [unmarshal_userControl]; exact sat_ite (fun _ => sat_err) fun _ => sat_ok rfl

theorem unmarshal_ne_panic (k : Kind) (data : Bytes) : unmarshal k data ≠ .panic := (unmarshal_sat k data).ne_panic

theorem unmarshal_kind {k : Kind} {data : Bytes} {p : Packet} (h : unmarshal k data = ok p) : p.kind = k :=
  (unmarshal_sat k data).of_ok h

/-- `DecodeMessage` refuses an empty payload before its switch; so does every decoder an arm could name. -/
theorem unmarshal_nil (k : Kind) : unmarshal k [] = err .generic := by cases k <;> rfl

theorem ctorResult_ne_panic (c : Gen.Rtmp.Ctor) (tbl : TxnTable) : (ctorResult c tbl).1 ≠ .panic := by
  unfold ctorResult; split <;> simp

theorem ctorResult_tbl (c : Gen.Rtmp.Ctor) (tbl : TxnTable) : (ctorResult c tbl).2 = tbl := by
  unfold ctorResult; split <;> rfl

theorem ctorResult_some {c : Gen.Rtmp.Ctor} {k : Kind} (h : ctorKind c = some k) (tbl : TxnTable) :
    ctorResult c tbl = (.ok k, tbl) := by
  simp only [ctorResult, h]

theorem ctorResult_none {c : Gen.Rtmp.Ctor} (h : ctorKind c = none) (tbl : TxnTable) :
    ctorResult c tbl = (.err .generic, tbl) := by
  simp only [ctorResult, h]

theorem decodeWith_ok (k : Kind) (tbl : TxnTable) (p : Bytes) : decodeWith (.ok k, tbl) p = (unmarshal k p, tbl) := rfl

theorem decodeWith_ne_panic (r : Res Kind × TxnTable) (p : Bytes) (h : r.1 ≠ .panic) : (decodeWith r p).1 ≠ .panic := by
  obtain ⟨r, t⟩ := r
  cases r with
  | ok k => exact unmarshal_ne_panic k p
  | err e => simp [decodeWith]
  | panic => exact absurd rfl h

theorem decodeWith_tbl (r : Res Kind × TxnTable) (p : Bytes) : (decodeWith r p).2 = r.2 := by
  obtain ⟨r, t⟩ := r
  cases r <;> rfl

theorem parseAMFObject_ne_panic (tbl : TxnTable) (p : Bytes) : (parseAMFObject tbl p).1 ≠ .panic := by
  unfold parseAMFObject
  cases hn : strDec p with
  | err k => exact nofun
  | panic => exact absurd hn (strDec_sat p).ne_panic
  | ok name =>
    by_cases hr : Gen.Rtmp.parseCommandArm name = .response
    · have htid : sliceFrom p (Amf0.size (.str name)) >>= numDec ≠ .panic :=
        ((sliceFrom_sat p _ ((strDec_sat p).of_ok hn)).bind fun r _ => sat_of_ne_panic (numDec_sat r).ne_panic).ne_panic
      simp only [hr]
      cases ht : sliceFrom p (Amf0.size (.str name)) >>= numDec with
      | err k => exact nofun
      | panic => exact absurd ht htid
      | ok tid =>
        dsimp only
        cases tbl.find tid with
        | none => exact nofun
        | some req => exact ctorResult_ne_panic _ _
    · simp only []
      exact ctorResult_ne_panic _ _

theorem dispatchSt_ne_panic (tbl : TxnTable) (m : Msg) : (dispatchSt tbl m).1 ≠ .panic := by
  unfold dispatchSt
  by_cases h0 : m.payload.length = 0
  · rw [if_pos h0]; exact nofun
  rw [if_neg h0]
  cases hp : (if Gen.Rtmp.decodeMessageSkipsOneByte m.hdr.ty = true then sliceFrom m.payload 1 else ok m.payload) with
  | err k => exact nofun
  | panic =>
    split at hp
    · exact absurd hp (sliceFrom_sat _ _ (by omega)).ne_panic
    · cases hp
  | ok p =>
    by_cases ha : Gen.Rtmp.decodeMessageArm m.hdr.ty = .parseAMFObject
    · simp only [ha]
      exact decodeWith_ne_panic _ _ (parseAMFObject_ne_panic tbl p)
    · simp only []
      exact decodeWith_ne_panic _ _ (ctorResult_ne_panic _ _)

theorem dispatch_eq_ok {tbl tbl' : TxnTable} {m : Msg} {p : Packet} :
    dispatch tbl m = ok (p, tbl') ↔ dispatchSt tbl m = (ok p, tbl') := by
  unfold dispatch
  rcases dispatchSt tbl m with ⟨_ | _ | _, t⟩ <;> simp

theorem dispatch_eq_err {tbl : TxnTable} {m : Msg} {e : EK} : dispatch tbl m = err e ↔ (dispatchSt tbl m).1 = err e := by
  unfold dispatch
  rcases dispatchSt tbl m with ⟨_ | _ | _, t⟩ <;> simp

theorem dispatch_ne_panic (tbl : TxnTable) (m : Msg) : dispatch tbl m ≠ .panic := by
  have := dispatchSt_ne_panic tbl m
  unfold dispatch
  generalize dispatchSt tbl m = r at this ⊢
  rcases r with ⟨_ | _ | _, t⟩ <;> simp_all

theorem expectPacket_ne_panic (k : Kind) : ∀ (msgs : List Msg) (tbl : TxnTable), (expectPacket k tbl msgs).1 ≠ .panic
  | [], tbl => by simp [expectPacket]
  | m :: ms, tbl => by
    unfold expectPacket
    split
    · split
      · simp
      · exact expectPacket_ne_panic k ms _
    · simp
    · next h =>
      have := dispatchSt_ne_panic tbl m
      rw [h] at this
      exact absurd rfl this

theorem expectMessage_ne_panic (types : List Nat) : ∀ msgs : List Msg, expectMessage types msgs ≠ .panic
  | [] => by simp [expectMessage]
  | m :: ms => by
    unfold expectMessage
    split
    · simp
    · exact expectMessage_ne_panic types ms

end RtmpPkt
end Oryx
