/-
  The websocket reader model `Oryx.WsRead` on the wire image of a sequence of RFC 6455 frames: symbolic execution
  of `advanceFrame` on `serialise f`, the model's checks against the spec's list of violations, one frame of the
  simulation of the spec receiver `Spec.Ws.recvFrom` (`frame_step`, which keeps the invariant `Sim`), and from it the
  refinement by `NextReader`, `ReadAll` and the session loop (C14_refines; also the reader half of C13's round trip).
  What holds on every byte stream is in `Oryx.Proofs.WsReadStream`.
-/
import Oryx.Proofs.WsReadStream
import Oryx.Proofs.WsSpec
namespace Oryx.WsRead
open Oryx Oryx.Gen.Websocket Oryx.Spec.Ws

/-! ### symbolic execution of `advanceFrame` on the wire image of a spec frame -/

/-- The header of a spec frame as `readHdr` decodes it. -/
def hdrOf (f : Frame) : Hdr :=
  { final := f.fin, rsv1 := f.rsv1, rsv23 := f.rsv2 || f.rsv3, frameType := f.opcode, mask := f.masked, len7 := len7 f }

theorem decodeHdr_bytes (f : Frame) (hwf : f.WF) : decodeHdr (byte0 f) (byte1 f) = hdrOf f := by
  obtain ⟨a1, a2, a3, a4, a5⟩ := byte0_fields f hwf.opcode_lt
  obtain ⟨b1, b2⟩ := byte1_fields f hwf.len7_lt
  rw [decodeHdr_eq, a1, a2, a3, a4, a5, b1, b2]; rfl

/-- The states of `advanceFrame` run from `s` on the wire image of `f` followed by `rest`: after `readHdr`,
after `checkHdr`, after `readLength` and (`afterHdr`) after `readMask`, as long as the frame is let through. -/
def st1 (s : RState) (f : Frame) (rest : Bytes) : RState :=
  { s with input := extLen f ++ ((if f.masked then f.key else []) ++ (wirePayload f ++ rest)),
           readRemaining := wrap64 (len7 f) }
def st2 (s : RState) (f : Frame) (rest : Bytes) : RState :=
  { st1 s f rest with readDecompress := s.decompress && f.rsv1 && isData f.opcode,
                      readFinal := if isControl f.opcode then s.readFinal else f.fin }
def st3 (s : RState) (f : Frame) (rest : Bytes) : RState :=
  { st2 s f rest with input := (if f.masked then f.key else []) ++ (wirePayload f ++ rest),
                      readRemaining := (f.len : Int) }
def afterHdr (s : RState) (f : Frame) (rest : Bytes) : RState :=
  { s with input := wirePayload f ++ rest, readRemaining := f.len,
           readDecompress := s.decompress && f.rsv1 && isData f.opcode,
           readFinal := if isControl f.opcode then s.readFinal else f.fin,
           maskPos := if f.masked then 0 else s.maskPos,
           maskKey := if f.masked then f.key else s.maskKey }

theorem readLength_frame (f : Frame) (hwf : f.WF) (s : RState) (rest : Bytes) :
    readLength (hdrOf f) (st2 s f rest) =
      if 2 ^ 63 ≤ f.len then protoErr { st3 s f rest with readRemaining := wrap64 f.len } else .ok () (st3 s f rest) := by
  have hin : (st2 s f rest).input = extLen f ++ (st3 s f rest).input := rfl
  rcases hwf.lenForm_cases with ⟨_, e7, ex, hl⟩ | ⟨_, e7, ex, hl⟩ | ⟨_, e7, ex, hl⟩
  · rw [readLength_7 (hdrOf f) _ (show len7 f < 126 by rw [e7]; exact hl), if_neg (by omega)]
    unfold st3 st2 st1
    rw [ex, e7, wrap64_nat_nonneg (by omega)]; rfl
  · rw [ex] at hin
    rw [readLength_16 (hdrOf f) _ e7 hin (be_length 2 _), ofBE_be_of_lt (by omega), if_neg (by omega)]
    rfl
  · rw [ex] at hin
    rw [readLength_64 (hdrOf f) _ e7 hin (be_length 8 _), ofBE_be_of_lt (by omega)]
    rfl

theorem readMask_frame (f : Frame) (hwf : f.WF) (s : RState) (rest : Bytes) :
    readMask (hdrOf f) (st3 s f rest) =
      if f.masked != s.isServer then protoErr (st3 s f rest) else .ok () (afterHdr s f rest) := by
  rw [readMask, show (hdrOf f).mask = f.masked from rfl, show (st3 s f rest).isServer = s.isServer from rfl]
  by_cases hne : (f.masked != s.isServer) = true
  · rw [if_pos hne, if_pos hne]
  · rw [if_neg hne, if_neg hne]
    unfold afterHdr st3 st2 st1
    cases hm : f.masked
    · rfl
    · rw [if_pos rfl, ← hwf.key_length.trans (if_pos hm), readN_append _ f.key (wirePayload f ++ rest) rfl]
      rfl

theorem maskBytes_eq_xorMask (key : Bytes) (pos : Nat) (bs : Bytes) : maskBytes key pos bs = xorMask key pos bs := by
  induction bs generalizing pos with
  | nil => rfl
  | cons b bs ih => simp [maskBytes, xorMask, ih]

theorem unmask_wirePayload (f : Frame) (isServer : Bool) (key : Bytes) (hrole : f.masked = isServer)
    (hkey : f.masked = true → key = f.key) :
    (if isServer then maskBytes key 0 (wirePayload f) else wirePayload f) = f.payload := by
  cases hm : f.masked
  · simp [wirePayload, ← hrole, hm]
  · simp [wirePayload, ← hrole, hm, hkey hm, maskBytes_eq_xorMask, xorMask_involution]

theorem readCtlPayload_frame (f : Frame) (hwf : f.WF) (s : RState) (rest : Bytes) (hrole : f.masked = s.isServer) :
    readCtlPayload (afterHdr s f rest) = .ok f.payload { afterHdr s f rest with input := rest, readRemaining := 0 } := by
  have hwl := hwf.wirePayload_length
  have hin : (afterHdr s f rest).input = wirePayload f ++ rest := rfl
  have hr : (afterHdr s f rest).readRemaining = f.len := rfl
  unfold readCtlPayload
  split
  · have hrd := readN_append { afterHdr s f rest with readRemaining := 0 } _ _ hin
    rw [hwl] at hrd
    have hu := unmask_wirePayload f s.isServer (afterHdr s f rest).maskKey hrole fun hm => by
      show (if f.masked then f.key else s.maskKey) = f.key; rw [if_pos hm]
    simp only [hr, Int.toNat_natCast, hrd]
    exact congrArg (Out.ok · _) hu
  · have h0 : f.len = 0 := by omega
    rw [List.eq_nil_of_length_eq_zero (hwf.payload_length.trans h0)]
    unfold afterHdr
    rw [List.eq_nil_of_length_eq_zero (hwl.trans h0), h0]; rfl

/-- What the header stages (1–4) of `advanceFrame` reject on the wire image of `f`: the header checks, the top bit
of the length, the mask rule. -/
def hdrViol (s : RState) (f : Frame) : Bool :=
  hdrBad s.decompress s.readFinal (hdrOf f) || decide (2 ^ 63 ≤ f.len) || (f.masked != s.isServer)

theorem hdrViol_false {s : RState} {f : Frame} (h : hdrViol s f = false) :
    hdrBad s.decompress s.readFinal (hdrOf f) = false ∧ f.len < 2 ^ 63 ∧ f.masked = s.isServer := by
  simpa [hdrViol, and_assoc] using h

theorem advanceFrame_frame (s : RState) (f : Frame) (rest : Bytes) (hwf : f.WF)
    (hr : s.readRemaining = 0) (hin : s.input = serialise f ++ rest) :
    (hdrViol s f = true →
      ∃ s1, advanceFrame s = protoErr s1 ∧ s1.replies = s.replies ∧ s1.closeSent = s.closeSent) ∧
    (hdrViol s f = false → advanceFrame s =
      if isControl f.opcode then controlFrame (hdrOf f) (afterHdr s f rest) else dataFrame (hdrOf f) (afterHdr s f rest)) := by
  have hin' : s.input = byte0 f :: byte1 f :: (st1 s f rest).input := by
    rw [hin]; simp [serialise, st1, List.append_assoc]
  have e0 : advanceFrame s = (checkHdr (hdrOf f) >>= fun _ => readLength (hdrOf f) >>= fun _ =>
      readMask (hdrOf f) >>= fun _ => if f.opcode == continuationFrame || isData f.opcode
        then dataFrame (hdrOf f) else controlFrame (hdrOf f)) (st1 s f rest) := by
    unfold advanceFrame
    rw [bind_of_ok (skipPrev_noop s (Int.le_of_eq hr)), bind_of_ok (readHdr_ok s _ _ _ hin'), decodeHdr_bytes f hwf]
    rfl
  have e1 : checkHdr (hdrOf f) (st1 s f rest) =
      if hdrBad s.decompress s.readFinal (hdrOf f) then protoErr _ else .ok () (st2 s f rest) := checkHdr_eq _ _
  have e2 := readLength_frame f hwf s rest
  have e3 := readMask_frame f hwf s rest
  rw [e0]
  refine ⟨fun hv => ?_, fun hv => ?_⟩
  · by_cases hb : hdrBad s.decompress s.readFinal (hdrOf f) = true
    · exact ⟨_, bind_of_fail (e1.trans (if_pos hb)), rfl, rfl⟩
    · rw [bind_of_ok (e1.trans (if_neg hb))]
      by_cases ht : 2 ^ 63 ≤ f.len
      · exact ⟨_, bind_of_fail (e2.trans (if_pos ht)), rfl, rfl⟩
      · rw [bind_of_ok (e2.trans (if_neg ht))]
        have hm : (f.masked != s.isServer) = true := by simpa [hdrViol, hb, ht] using hv
        exact ⟨_, bind_of_fail (e3.trans (if_pos hm)), rfl, rfl⟩
  · obtain ⟨hb, ht, hm⟩ := hdrViol_false hv
    rw [bind_of_ok (e1.trans (if_neg (by rw [hb]; exact Bool.false_ne_true))),
      bind_of_ok (e2.trans (if_neg (Nat.not_le.mpr ht))), bind_of_ok (e3.trans (if_neg (by simp [hm])))]
    have hk : isControl f.opcode = true ∨ isControl f.opcode = false ∧
        (isData f.opcode = true ∧ _ ∨ f.opcode = 0 ∧ _) := hdrBad_false hb
    rcases hk with hc | ⟨hc, ⟨hd, _⟩ | ⟨h0, _⟩⟩
    · rw [if_neg (by rw [not_data_of_isControl hc]; exact Bool.false_ne_true), if_pos hc]
    · rw [if_pos (by rw [hd, Bool.or_true]), if_neg (by rw [hc]; exact Bool.false_ne_true)]
    · rw [if_pos (by rw [h0]; rfl), if_neg (by rw [hc]; exact Bool.false_ne_true)]

/-! ### the model's checks are the spec's list of violations -/

def roleOf (isServer : Bool) : Role := if isServer then .server else .client

theorem roleOf_beq_server (isServer : Bool) : (roleOf isServer == Role.server) = isServer := by
  cases isServer <;> rfl

def violOf (s : RState) (f : Frame) : Bool := Spec.Ws.violation (roleOf s.isServer) s.decompress (!s.readFinal) f

theorem isControl_eq (n : Nat) : isControl n = Spec.Ws.isControl n := by
  simp [isControl, Spec.Ws.isControl, CloseMessage, PingMessage, PongMessage]
theorem isData_eq (n : Nat) : isData n = Spec.Ws.isDataStart n := by
  simp [isData, Spec.Ws.isDataStart, TextMessage, BinaryMessage]

theorem isControl_ctl {op : Nat} (h : op = 8 ∨ op = 9 ∨ op = 10) : isControl op = true := by
  rcases h with rfl | rfl | rfl <;> rfl
theorem isControl_data {op : Nat} (h : op = 0 ∨ op = 1 ∨ op = 2) : isControl op = false := by
  rcases h with rfl | rfl | rfl <;> rfl
theorem isData_start {op : Nat} (h : op = 1 ∨ op = 2) : isData op = true := by
  rcases h with rfl | rfl <;> rfl

theorem violation_eq (s : RState) (f : Frame) (h : f.WF) :
    violOf s f = (hdrViol s f || (f.opcode == 8 && Spec.Ws.closeBodyBad f.payload)) := by
  unfold violOf Spec.Ws.violation hdrViol hdrBad hdrOf Spec.Ws.knownOpcode
  rw [roleOf_beq_server, isControl_eq, isData_eq, show decide (len7 f > maxControlFramePayloadSize) = _ from h.len7_gt]
  simp only [continuationFrame]
  -- per opcode class both sides are disjunctions of the same atoms, up to order
  generalize (f.masked != s.isServer) = mk
  generalize decide (2 ^ 63 ≤ f.len) = tp
  generalize decide (125 < f.len) = big
  generalize (f.lenForm != 0) = lf
  generalize (f.opcode == 8 && closeBodyBad f.payload) = cb
  rcases opcode_cases f.opcode with ⟨a, b, c⟩ | ⟨a, b, c⟩ | ⟨a, b, c⟩ | ⟨a, b, c⟩
  all_goals simp only [a, b, c, if_true, Bool.false_eq_true, if_false]
  all_goals cases f.rsv1 <;> simp [Bool.or_comm, Bool.or_left_comm]

/-- The set of close codes the Go source accepts (evaluated for every 16-bit code by the translator) is the
RFC 6455 §7.4 / IANA set of the spec. The proof does not depend on how the generated runs are cut. -/
theorem closeCode_eq (c : Nat) : Spec.Ws.validCloseCode c = isValidReceivedCloseCode c := by
  rw [Bool.eq_iff_iff]
  simp only [Spec.Ws.validCloseCode, isValidReceivedCloseCode, closeCodeAccepted, Bool.or_eq_true, Bool.and_eq_true,
    beq_iff_eq, decide_eq_true_eq]
  omega

theorem inR_iff (b : UInt8) (lo hi : Nat) : Spec.Ws.inR b lo hi = (decide (lo ≤ b.toNat) && decide (b.toNat ≤ hi)) := rfl
theorem tailB_iff (b : UInt8) : Spec.Ws.tailB b = (decide (0x80 ≤ b.toNat) && decide (b.toNat ≤ 0xBF)) := rfl

/-- The lead-byte classes of RFC 3629 §4, given by ranges in the spec, as the chain of upper bounds Go tests. -/
theorem leadByte_cascade (a : UInt8) (A B C D : Bool) :
    (if Spec.Ws.inR a 0x00 0x7F then A else if Spec.Ws.inR a 0xC2 0xDF then B
      else if Spec.Ws.inR a 0xE0 0xEF then C else if Spec.Ws.inR a 0xF0 0xF4 then D else false) =
    (if a.toNat < 0x80 then A else if a.toNat < 0xC2 then false else if a.toNat < 0xE0 then B
      else if a.toNat < 0xF0 then C else if a.toNat < 0xF5 then D else false) := by
  simp only [inR_iff, Bool.and_eq_true, decide_eq_true_eq]
  generalize a.toNat = x
  by_cases h1 : x < 0x80
  · rw [if_pos (by omega), if_pos h1]
  · rw [if_neg (by omega), if_neg h1]
    by_cases h2 : x < 0xC2
    · rw [if_pos h2, if_neg (by omega), if_neg (by omega), if_neg (by omega)]
    · rw [if_neg h2]
      by_cases h3 : x < 0xE0
      · rw [if_pos (by omega), if_pos h3]
      · rw [if_neg (by omega), if_neg h3]
        by_cases h4 : x < 0xF0
        · rw [if_pos (by omega), if_pos h4]
        · rw [if_neg (by omega), if_neg h4]
          by_cases h5 : x < 0xF5
          · rw [if_pos (by omega), if_pos h5]
          · rw [if_neg (by omega), if_neg h5]

/-- The second byte of a 3- or 4-byte sequence: the spec's case list is Go's pair of bounds. -/
theorem secondByte_bounds (x : Nat) (b : UInt8) (k1 lo1 k2 hi2 : Nat) (hk : k1 ≠ k2) :
    (if x = k1 then Spec.Ws.inR b lo1 0xBF else if x = k2 then Spec.Ws.inR b 0x80 hi2
      else decide (0x80 ≤ b.toNat) && decide (b.toNat ≤ 0xBF)) =
    (decide ((if x = k1 then lo1 else 0x80) ≤ b.toNat) && decide (b.toNat ≤ (if x = k2 then hi2 else 0xBF))) := by
  by_cases h1 : x = k1
  · rw [if_pos h1, if_pos h1, if_neg (h1 ▸ hk)]; rfl
  · rw [if_neg h1, if_neg h1]; split <;> rfl

theorem utf8ValidF_eq (n : Nat) (bs : Bytes) : Spec.Ws.utf8ValidF n bs = utf8ValidF n bs := by
  induction n generalizing bs with
  | zero => cases bs <;> rfl
  | succ n ih =>
    cases bs with
    | nil => rfl
    | cons a rest =>
      simp only [Spec.Ws.utf8ValidF, utf8ValidF]
      rw [leadByte_cascade]
      simp only [tailB_iff, ih, secondByte_bounds _ _ _ _ _ _ (by decide : 0xE0 ≠ 0xED),
        secondByte_bounds _ _ _ _ _ _ (by decide : 0xF0 ≠ 0xF4)]
      rfl

theorem utf8Valid_eq (bs : Bytes) : Spec.Ws.utf8Valid bs = utf8Valid bs := utf8ValidF_eq _ bs

theorem closeBodyBad_eq (p : Bytes) : Spec.Ws.closeBodyBad p = closeBad p := by
  simp only [Spec.Ws.closeBodyBad, closeBad, closeCode_eq, utf8Valid_eq]

/-! ### `advanceFrame` at a healthy frame boundary, case by case -/

/-- A healthy state at a frame boundary. -/
structure Bnd (s : RState) : Prop where
  rem : s.readRemaining = 0
  err : s.readErr = none
  cs : s.closeSent = false
  len0 : 0 ≤ s.readLength
  len1 : s.readLength < 2 ^ 63
  lim0 : 0 ≤ s.readLimit
  lim1 : s.readLimit < 2 ^ 63

/-- The largest message the reader accepts: the configured limit, or what an `int64` can count. -/
def capOf (L : Int) : Nat := if L > 0 then L.toNat else 2 ^ 63 - 1

theorem capOf_lt (L : Int) (h1 : L < 2 ^ 63) : capOf L < 2 ^ 63 := by
  unfold capOf; split <;> omega

/-- The connection configuration, `Eff`'s first three fields: what `specRecv` and (beside `readFinal`) `violOf` read
of a state. -/
def Cfg (s s' : RState) : Prop :=
  s'.isServer = s.isServer ∧ s'.decompress = s.decompress ∧ s'.readLimit = s.readLimit

theorem Cfg.isServer {s s' : RState} (h : Cfg s s') : s'.isServer = s.isServer := h.1
theorem Cfg.decompress {s s' : RState} (h : Cfg s s') : s'.decompress = s.decompress := h.2.1
theorem Cfg.readLimit {s s' : RState} (h : Cfg s s') : s'.readLimit = s.readLimit := h.2.2

theorem Cfg.trans {a b c : RState} (h1 : Cfg a b) (h2 : Cfg b c) : Cfg a c :=
  ⟨h2.isServer.trans h1.isServer, h2.decompress.trans h1.decompress, h2.readLimit.trans h1.readLimit⟩

theorem violOf_cfg {s s1 : RState} (h : Cfg s s1) (hrf : s1.readFinal = s.readFinal) (f : Frame) :
    violOf s1 f = violOf s f := by
  unfold violOf; rw [h.isServer, h.decompress, hrf]

theorem protoErr_open {α : Type} (s0 s1 : RState) (hr : s1.replies = s0.replies) (hc : s1.closeSent = false) :
    ∃ s', (protoErr s1 : Out α) = .fail .proto s' ∧ s'.replies = s0.replies ++ [(8, be 2 1002)] :=
  ⟨_, rfl, by rw [← hr]; exact sendCtl_replies _ _ _ hc⟩

theorem advanceFrame_ctl (s : RState) (f : Frame) (rest : Bytes) (hwf : f.WF) (hr : s.readRemaining = 0)
    (hin : s.input = serialise f ++ rest) (hC : hdrViol s f = false) (hctl : isControl f.opcode = true) :
    advanceFrame s =
      if f.opcode == 10 then .ok f.opcode { afterHdr s f rest with input := rest, readRemaining := 0 }
      else if f.opcode == 9 then
        .ok f.opcode (sendCtl PongMessage f.payload { afterHdr s f rest with input := rest, readRemaining := 0 })
      else handleCloseFrame f.payload { afterHdr s f rest with input := rest, readRemaining := 0 } := by
  rw [(advanceFrame_frame s f rest hwf hr hin).2 hC, if_pos hctl, controlFrame,
    readCtlPayload_frame f hwf s rest (hdrViol_false hC).2.2]
  rfl

theorem step_violation (s : RState) (f : Frame) (rest : Bytes) (hwf : f.WF) (hb : Bnd s)
    (hin : s.input = serialise f ++ rest) (hv : violOf s f = true) :
    ∃ s', advanceFrame s = .fail .proto s' ∧ s'.replies = s.replies ++ [(8, be 2 1002)] := by
  rw [violation_eq s f hwf] at hv
  cases hC : hdrViol s f
  · rw [hC, Bool.false_or, Bool.and_eq_true, beq_iff_eq] at hv
    rw [advanceFrame_ctl s f rest hwf hb.rem hin hC (isControl_ctl (.inl hv.1)), handleCloseFrame_eq, ← closeBodyBad_eq,
      hv.2]
    simp only [hv.1, Nat.reduceBEq, Bool.false_eq_true, if_false, if_true]
    exact protoErr_open s _ rfl hb.cs
  · obtain ⟨s1, h1, h2, h3⟩ := (advanceFrame_frame s f rest hwf hb.rem hin).1 hC
    rw [h1]; exact protoErr_open s s1 h2 (h3.trans hb.cs)

theorem step_pingpong (s : RState) (f : Frame) (rest : Bytes) (hwf : f.WF) (hb : Bnd s)
    (hin : s.input = serialise f ++ rest) (hv : violOf s f = false) (hop : f.opcode = 9 ∨ f.opcode = 10) :
    ∃ s', advanceFrame s = .ok f.opcode s' ∧ s'.input = rest ∧
      s'.replies = (if f.opcode = 9 then s.replies ++ [(10, f.payload)] else s.replies) ∧
      Bnd s' ∧ Cfg s s' ∧ s'.readFinal = s.readFinal ∧ s'.readLength = s.readLength := by
  rw [violation_eq s f hwf, Bool.or_eq_false_iff] at hv
  have hctl := isControl_ctl (.inr hop)
  have hrf : (afterHdr s f rest).readFinal = s.readFinal := if_pos hctl
  rw [advanceFrame_ctl s f rest hwf hb.rem hin hv.1 hctl]
  rcases hop with h | h
  · simp only [h, Nat.reduceBEq, Bool.false_eq_true, if_false, if_true]
    -- `by exact`: a plain `hb.cs` would fix the state argument to `s` before `rw` has matched it with the goal's
    rw [sendCtl_open _ _ _ (by exact hb.cs)]
    exact ⟨_, rfl, rfl, rfl, ⟨rfl, hb.err, rfl, hb.len0, hb.len1, hb.lim0, hb.lim1⟩, ⟨rfl, rfl, rfl⟩, hrf, rfl⟩
  · simp only [h, Nat.reduceBEq, if_true]
    exact ⟨_, rfl, rfl, rfl, ⟨rfl, hb.err, hb.cs, hb.len0, hb.len1, hb.lim0, hb.lim1⟩, ⟨rfl, rfl, rfl⟩, hrf, rfl⟩

theorem step_close (s : RState) (f : Frame) (rest : Bytes) (hwf : f.WF) (hb : Bnd s)
    (hin : s.input = serialise f ++ rest) (hv : violOf s f = false) (hop : f.opcode = 8) :
    ∃ s', advanceFrame s =
        .fail (if f.payload.length < 2 then .close 1005 [] else .close (ofBE (f.payload.take 2)) (f.payload.drop 2)) s' ∧
      s'.replies = s.replies ++ [(8, if f.payload.length < 2 then [] else f.payload.take 2)] := by
  rw [violation_eq s f hwf, Bool.or_eq_false_iff] at hv
  rw [advanceFrame_ctl s f rest hwf hb.rem hin hv.1 (isControl_ctl (.inl hop)), handleCloseFrame_eq, ← closeBodyBad_eq,
    show closeBodyBad f.payload = false by simpa [hop] using hv.2]
  simp only [hop, Nat.reduceBEq, Bool.false_eq_true, if_false]
  split
  · exact ⟨_, rfl, sendCtl_replies _ _ _ hb.cs⟩
  · exact ⟨_, rfl, sendCtl_replies _ _ _ hb.cs⟩

/-- Step 5's test on the `int64` sum — wrapped negative, or above a configured limit — is the comparison of the
true sum with the cap; a sum that passes did not wrap. -/
theorem limit_test (L : Int) (hL : L < 2 ^ 63) (t n : Nat) (ht : t < 2 ^ 63) (hn : n < 2 ^ 63) :
    (decide (wrap64 ((t : Int) + n) < 0) || (decide (L > 0) && decide (wrap64 ((t : Int) + n) > L))) =
      decide (capOf L < t + n) ∧
    (t + n ≤ capOf L → wrap64 ((t : Int) + n) = ((t + n : Nat) : Int)) := by
  have hcap : (L > 0 → capOf L = L.toNat) ∧ (¬ L > 0 → capOf L = 2 ^ 63 - 1) := by
    unfold capOf; constructor <;> intro h <;> simp [h]
  refine ⟨?_, fun h => ?_⟩
  · rw [Bool.eq_iff_iff]
    simp only [Bool.or_eq_true, Bool.and_eq_true, decide_eq_true_eq]
    by_cases hl : L > 0
    · have := hcap.1 hl; unfold wrap64; omega
    · have := hcap.2 hl; unfold wrap64; omega
  · have := capOf_lt L hL; unfold wrap64; omega

/-- The model is positioned at the payload of frame `f` (header consumed and accepted). -/
structure AtPayload (s : RState) (f : Frame) (tail : Bytes) : Prop where
  input : s.input = wirePayload f ++ tail
  rem : s.readRemaining = f.len
  err : s.readErr = none
  cs : s.closeSent = false
  key : s.isServer = true → s.maskKey = f.key ∧ s.maskPos = 0
  masked : f.masked = s.isServer

/-- `total` is the spec receiver's running total. -/
theorem step_data (s : RState) (f : Frame) (rest : Bytes) (hwf : f.WF) (hb : Bnd s)
    (hin : s.input = serialise f ++ rest) (hv : violOf s f = false)
    (hop : f.opcode = 0 ∨ f.opcode = 1 ∨ f.opcode = 2) (total : Nat) (ht : s.readLength = total) :
    (capOf s.readLimit < total + f.len →
      ∃ s', advanceFrame s = .fail .limit s' ∧ s'.replies = s.replies ++ [(8, be 2 1009)]) ∧
    (total + f.len ≤ capOf s.readLimit →
      ∃ s', advanceFrame s = .ok f.opcode s' ∧ AtPayload s' f rest ∧ s'.readFinal = f.fin ∧
        s'.readLength = ((total + f.len : Nat) : Int) ∧ s'.readDecompress = (f.rsv1 && isData f.opcode) ∧
        s'.replies = s.replies ∧ Cfg s s') := by
  rw [violation_eq s f hwf, Bool.or_eq_false_iff] at hv
  obtain ⟨hbad, htop, hmask⟩ := hdrViol_false hv.1
  have hnc := isControl_data hop
  obtain ⟨htest, hfit⟩ := limit_test s.readLimit hb.lim1 total f.len (by have := hb.len1; omega) htop
  have hsum : (afterHdr s f rest).readLength + (afterHdr s f rest).readRemaining = (total : Int) + f.len := by
    show s.readLength + (f.len : Int) = _; rw [ht]
  rw [(advanceFrame_frame s f rest hwf hb.rem hin).2 hv.1, if_neg (by simp [hnc])]
  simp only [dataFrame, hsum]
  rw [show (afterHdr s f rest).readLimit = s.readLimit from rfl, htest]
  refine ⟨fun hover => ?_, fun hle => ?_⟩
  · simp only [hover, decide_true, if_true]
    exact ⟨_, rfl, sendCtl_replies _ _ _ hb.cs⟩
  · simp only [Nat.not_lt.mpr hle, decide_false, Bool.false_eq_true, if_false]
    refine ⟨_, rfl, ⟨rfl, rfl, hb.err, hb.cs, fun hsrv => ?_, hmask⟩, by simp [afterHdr, hnc], hfit hle,
      hdrBad_false_pmc hbad, rfl, ⟨rfl, rfl, rfl⟩⟩
    have hm : f.masked = true := hmask.trans hsrv
    simp [afterHdr, hm]

/-! ### one frame of the simulation -/

/-- How the spec's way of stopping shows in the model's error. -/
def EndErr : End → RErr → Prop
  | .more, e => e = .ueof
  | .fail st, e => (st = 1002 ∧ e = .proto) ∨ (st = 1009 ∧ e = .limit)
  | .closed c r, e => e = .close c r

abbrev specRecv (s : RState) := recvFrom (roleOf s.isServer) s.decompress (capOf s.readLimit)

theorem specRecv_cfg {s s1 : RState} (h : Cfg s s1) : specRecv s1 = specRecv s := by
  unfold specRecv; rw [h.isServer, h.decompress, h.readLimit]

variable {s0 : RState} {out0 : RecvOut} {ms : List Spec.Ws.Msg}

/-- The simulation invariant, at a frame boundary. The session started in `s0`, where the spec receiver's outcome for
the frames then ahead is `out0`. Since then the messages `ms` were delivered, and the model stands in the healthy
boundary state `s` in front of the wire image of `fs` with the spec receiver in state `st`: what that still does,
after `ms` and the replies written so far, is `out0`. -/
structure Sim (s0 : RState) (out0 : RecvOut) (ms : List Spec.Ws.Msg) (s : RState) (st : Option Open)
    (fs : List Frame) : Prop where
  bnd : Bnd s
  cfg : Cfg s0 s
  input : s.input = serialiseAll fs
  wf : ∀ g ∈ fs, g.WF
  fin : s.readFinal = !st.isSome
  len : s.readLength = ((st.elim 0 Open.total : Nat) : Int)
  out : ∃ rs, s.replies = s0.replies ++ rs ∧ out0 = preOut ms rs (specRecv s0 st fs)

/-- The model stopped with error `e`, having written `replies`, the way `out0` says: `ms` was all there is to deliver,
its replies are written, its way of ending is reported. -/
structure Ended (s0 : RState) (out0 : RecvOut) (ms : List Spec.Ws.Msg) (replies : List (Nat × Bytes)) (e : RErr) :
    Prop where
  msgs : out0.msgs = ms
  replies : replies = s0.replies ++ out0.replies
  fin : EndErr out0.fin e

theorem Sim.ended {s : RState} {out : RecvOut} {st : Option Open} {fs : List Frame} {replies : List (Nat × Bytes)}
    {e : RErr} (h : Sim s0 out0 ms s st fs) (hspec : specRecv s st fs = out)
    (hm : out.msgs = []) (hr : replies = s.replies ++ out.replies) (hf : EndErr out.fin e) :
    Ended s0 out0 ms replies e := by
  obtain ⟨rs, hrs, hout⟩ := h.out
  rw [specRecv_cfg h.cfg] at hspec
  subst hspec
  exact ⟨by rw [hout, preOut_msgs, hm, List.append_nil], by rw [hr, hrs, hout, preOut_replies, List.append_assoc],
    hout ▸ hf⟩

/-- `advanceFrame` accepted the data frame `f` and stands at its payload in `s`; the spec receiver, in state `st`
before, has taken it too and goes on with `fs`. -/
structure Accepted (s0 : RState) (out0 : RecvOut) (ms : List Spec.Ws.Msg) (st : Option Open) (f : Frame)
    (fs : List Frame) (s : RState) : Prop where
  pay : AtPayload s f (serialiseAll fs)
  wf : ∀ g ∈ f :: fs, g.WF
  fin : s.readFinal = f.fin
  len : s.readLength = ((openAfter st f).total : Nat)
  cap : (openAfter st f).total ≤ capOf s.readLimit
  lim0 : 0 ≤ s.readLimit
  lim1 : s.readLimit < 2 ^ 63
  dec : st = none → s.readDecompress = f.rsv1
  cfg : Cfg s0 s
  out : ∃ rs, s.replies = s0.replies ++ rs ∧ out0 = preOut ms rs
    (if f.fin then
      preOut [{ ty := (openAfter st f).ty, compressed := (openAfter st f).compressed, data := (openAfter st f).acc }] []
        (specRecv s0 none fs)
    else specRecv s0 (some (openAfter st f)) fs)

/-- **One frame.** `advanceFrame` and one step of `recvFrom` do the same thing: both stop (violation, Close, message
too big); or a ping/pong is consumed and answered; or a data frame is accepted. -/
theorem frame_step {s : RState} {st : Option Open} {f : Frame} {fs : List Frame} (h : Sim s0 out0 ms s st (f :: fs)) :
    (∃ e s', advanceFrame s = .fail e s' ∧ e ≠ .eof ∧ Ended s0 out0 ms s'.replies e) ∨
    (∃ s', advanceFrame s = .ok f.opcode s' ∧ (f.opcode == TextMessage || f.opcode == BinaryMessage) = false ∧
        Sim s0 out0 ms s' st fs) ∨
    (∃ s', advanceFrame s = .ok f.opcode s' ∧
        (f.opcode == TextMessage || f.opcode == BinaryMessage) = !st.isSome ∧ Accepted s0 out0 ms st f fs s') := by
  have hb := h.bnd
  have hwf := h.wf f (by simp)
  have hwf' : ∀ g ∈ fs, g.WF := fun g hg => h.wf g (by simp [hg])
  obtain ⟨rs, hrs, hout⟩ := h.out
  have hvdef : Spec.Ws.violation (roleOf s.isServer) s.decompress st.isSome f = violOf s f := by
    simp [violOf, h.fin]
  by_cases hv : violOf s f = true
  · obtain ⟨s', h1, h2⟩ := step_violation s f _ hwf hb h.input hv
    exact .inl ⟨.proto, s', h1, by decide,
      h.ended (recvFrom_viol _ _ _ st f fs (hvdef ▸ hv)) rfl h2 (.inl ⟨rfl, rfl⟩)⟩
  · have hv' : violOf s f = false := by simpa using hv
    have hnv := hvdef ▸ hv'
    have skip : ∀ hop : f.opcode = 9 ∨ f.opcode = 10,
        specRecv s st (f :: fs) = preOut [] (if f.opcode = 9 then [(10, f.payload)] else []) (specRecv s st fs) →
        ∃ s', advanceFrame s = .ok f.opcode s' ∧ (f.opcode == TextMessage || f.opcode == BinaryMessage) = false ∧
          Sim s0 out0 ms s' st fs := fun hop hspec => by
      obtain ⟨s1, h1, hin1, hrep, hbnd, hcfg, hfin, hlen⟩ := step_pingpong s f _ hwf hb h.input hv' hop
      refine ⟨s1, h1, by rcases hop with h | h <;> rw [h] <;> rfl, hbnd, h.cfg.trans hcfg, hin1, hwf', hfin.trans h.fin,
        hlen.trans h.len, _, ?_, by rw [hout, ← specRecv_cfg h.cfg, hspec, preOut_preOut, List.append_nil]⟩
      rw [hrep, hrs]; split <;> simp
    rcases opcode_of_violation_false hnv with h8 | h9 | h10 | hdat
    · obtain ⟨s', h1, h2⟩ := step_close s f _ hwf hb h.input hv' h8
      exact .inl ⟨_, s', h1, by split <;> exact nofun,
        h.ended (recvFrom_close _ _ _ st f fs hnv h8) rfl h2 (by split <;> rfl)⟩
    · exact .inr (.inl (skip (.inl h9) (by rw [if_pos h9]; exact recvFrom_ping _ _ _ st f fs hnv h9)))
    · exact .inr (.inl (skip (.inr h10) (by rw [if_neg (by omega)]; exact recvFrom_pong _ _ _ st f fs hnv h10)))
    · have hop : f.opcode = 0 ∨ f.opcode = 1 ∨ f.opcode = 2 := by omega
      have hty : (f.opcode == TextMessage || f.opcode == BinaryMessage) = !st.isSome := by
        rcases hdat with ⟨h0, hs⟩ | ⟨h12, hs⟩
        · rw [h0, hs]; rfl
        · rw [hs]; exact isData_start h12
      have htot := openAfter_total st f
      obtain ⟨hover, hfit⟩ := step_data s f (serialiseAll fs) hwf hb h.input hv' hop _ h.len
      have hspec : specRecv s st (f :: fs) = _ := recvFrom_data _ _ _ st f fs hnv hop
      by_cases hc : capOf s.readLimit < (openAfter st f).total
      · obtain ⟨s', h1, h2⟩ := hover (htot ▸ hc)
        exact .inl ⟨.limit, s', h1, by decide, h.ended (hspec.trans (if_pos hc)) rfl h2 (.inr ⟨rfl, rfl⟩)⟩
      · obtain ⟨s', h1, hpay, hfin, hlen, hdec, hrep, hcfg⟩ := hfit (by omega)
        refine .inr (.inr ⟨s', h1, hty, hpay, h.wf, hfin, by rw [hlen, htot], by rw [hcfg.readLimit]; omega,
          hcfg.readLimit ▸ hb.lim0, hcfg.readLimit ▸ hb.lim1, fun hst => ?_, h.cfg.trans hcfg, rs, hrep.trans hrs,
          by rw [hout, ← specRecv_cfg h.cfg, hspec, if_neg hc]⟩)
        -- a message starts with a Text/Binary frame
        rw [hdec, show isData f.opcode = true by rw [hst] at hty; exact hty, Bool.and_true]

/-! ### the loops on a frame sequence -/

/-- **NextReader on frames.** It stops where and how the spec receiver stops; or it skips the same ping/pong frames,
answering the pings, and accepts the Text/Binary frame `f` the spec receiver accepts. -/
theorem nextReaderLoop_frames (fs : List Frame) :
    ∀ (s : RState) (fuel : Nat), Sim s0 out0 ms s none fs → fs.length < fuel →
      (∃ e s', nextReaderLoop fuel s = .fail e s' ∧ s'.readErr = some e ∧ Ended s0 out0 ms s'.replies e) ∨
      (∃ f rest s', nextReaderLoop fuel s = .ok f.opcode s' ∧ Accepted s0 out0 ms none f rest s') := by
  induction fs with
  | nil =>
    intro s fuel h hfuel
    obtain ⟨n, rfl⟩ : ∃ n, fuel = n + 1 := ⟨fuel - 1, by omega⟩
    rw [nextReaderLoop_step n s h.bnd.err, advanceFrame_empty s h.bnd.rem h.input]
    exact .inl ⟨.ueof, _, rfl, rfl, h.ended rfl rfl (List.append_nil _).symm rfl⟩
  | cons f fs' ih =>
    intro s fuel h hfuel
    obtain ⟨n, rfl⟩ : ∃ n, fuel = n + 1 := ⟨fuel - 1, by omega⟩
    rw [nextReaderLoop_step n s h.bnd.err]
    rcases frame_step h with ⟨e, s', hadv, _, hend⟩ | ⟨s1, hadv, hop, h1⟩ | ⟨s', hadv, hty, hacc⟩
    · rw [hadv]
      exact .inl ⟨e, _, rfl, rfl, hend⟩
    · rw [hadv]
      simp only [hop, Bool.false_eq_true, if_false]
      exact ih s1 n h1 (by simp at hfuel; omega)
    · rw [hadv]
      simp only [hty, Option.isSome, Bool.not_false, if_true]
      exact .inr ⟨f, fs', s', rfl, hacc⟩

/-- An empty payload costs no iteration, hence `fuel ≤ fuel'`. -/
theorem readAllLoop_payload (s : RState) (f : Frame) (tail : Bytes) (hwf : f.WF) (hp : AtPayload s f tail)
    (fuel : Nat) (acc : Bytes) :
    ∃ sb fuel', fuel ≤ fuel' ∧ readAllLoop (fuel + 1) acc s = readAllLoop fuel' (acc ++ f.payload) sb ∧
      sb.input = tail ∧ sb.readRemaining = 0 ∧ sb.readErr = none ∧ sb.closeSent = false ∧
      sb.readFinal = s.readFinal ∧ sb.readLength = s.readLength ∧ sb.replies = s.replies ∧ Cfg s sb := by
  have hwl := hwf.wirePayload_length
  by_cases h0 : f.len = 0
  · have hp0 : f.payload = [] := List.eq_nil_of_length_eq_zero (hwf.payload_length.trans h0)
    have hw0 : wirePayload f = [] := List.eq_nil_of_length_eq_zero (hwl.trans h0)
    exact ⟨s, fuel + 1, Nat.le_succ _, by rw [hp0, List.append_nil], by rw [hp.input, hw0]; rfl, by rw [hp.rem, h0]; rfl,
      hp.err, hp.cs, rfl, rfl, rfl, ⟨rfl, rfl, rfl⟩⟩
  · have htake : s.input.take f.len = wirePayload f := by rw [hp.input]; exact take_append_len _ _ hwl
    have hdrop : s.input.drop f.len = tail := by rw [hp.input]; exact drop_append_len _ _ hwl
    have hk : (s.input.take s.readRemaining.toNat).length = f.len := by rw [hp.rem, Int.toNat_natCast, htake, hwl]
    have hdata : (if s.isServer then maskBytes s.maskKey s.maskPos (wirePayload f) else wirePayload f) = f.payload := by
      cases hs : s.isServer
      · exact unmask_wirePayload f false s.maskKey (hp.masked.trans hs) fun hm => by rw [hp.masked, hs] at hm; cases hm
      · obtain ⟨hk, hpos0⟩ := hp.key hs
        rw [hpos0]; exact unmask_wirePayload f true s.maskKey (hp.masked.trans hs) fun _ => hk
    refine ⟨{ s with input := tail, readRemaining := s.readRemaining - (f.len : Int), maskPos := (s.maskPos + f.len) % 4 },
      fuel, Nat.le_refl _, ?_, rfl, by show s.readRemaining - (f.len : Int) = 0; rw [hp.rem]; omega, hp.err, hp.cs,
      rfl, rfl, rfl, ⟨rfl, rfl, rfl⟩⟩
    rw [readAllLoop_chunk fuel acc s hp.err (by rw [hp.rem]; omega) hk h0, htake, hdrop, hdata]

/-- the spec message record as the model delivers it -/
def conv (m : Spec.Ws.Msg) : Msg := { ty := m.ty, compressed := m.compressed, data := m.data }

/-- How `ReadAll` (outcome `r`) ends, reading a message of type `ty` and compression flag `cz`: both stop; or the
message completes with the spec's payload and both stand between messages, in front of the remaining frames `rest` —
in the invariant but for `readLength`, which `NextReader` resets. -/
def ReadAllSim (s0 : RState) (out0 : RecvOut) (ms : List Spec.Ws.Msg) (r : Out (Bytes × Option RErr)) (ty : Nat)
    (cz : Bool) : Prop :=
  (∃ data e s', r = .ok (data, some e) s' ∧ s'.readErr = some e ∧ Ended s0 out0 ms s'.replies e) ∨
  (∃ data rest s', r = .ok (data, none) s' ∧
      Sim s0 out0 (ms ++ [{ ty := ty, compressed := cz, data := data }]) { s' with readLength := 0 } none rest)

/-- The statement of `readAllLoop_frames` for the frames `fs` (`ReadAll` inside a fragmented message, `o` the spec's
open record), under a name so that `readAllLoop_atPayload` can take it as a hypothesis: inside `readAllLoop_frames`
that is the induction hypothesis. -/
def ReadAllFrames (s0 : RState) (out0 : RecvOut) (ms : List Spec.Ws.Msg) (fs : List Frame) : Prop :=
  ∀ (s : RState) (fuel : Nat) (o : Open), Sim s0 out0 ms s (some o) fs → 2 * fs.length + 2 ≤ fuel →
    ReadAllSim s0 out0 ms (readAllLoop fuel o.acc s) o.ty o.compressed

theorem readAllLoop_atPayload {s1 : RState} {fs : List Frame} {st : Option Open} {f : Frame}
    (hfs : ReadAllFrames s0 out0 ms fs) (ha : Accepted s0 out0 ms st f fs s1) (fuel : Nat)
    (hfuel : 2 * fs.length + 2 ≤ fuel) :
    ReadAllSim s0 out0 ms (readAllLoop (fuel + 1) (st.elim [] Open.acc) s1) (openAfter st f).ty
      (openAfter st f).compressed := by
  obtain ⟨sb, fuel', hfl, hloop, hin, hrem, herr, hcs, hfin, hlen, hrep, hcfg⟩ :=
    readAllLoop_payload s1 f _ (ha.wf f (by simp)) ha.pay fuel (st.elim [] Open.acc)
  obtain ⟨rs, hrs, hout⟩ := ha.out
  have hwf : ∀ g ∈ fs, g.WF := fun g hg => ha.wf g (by simp [hg])
  have hfin' : sb.readFinal = f.fin := hfin.trans ha.fin
  have hlim0 : 0 ≤ sb.readLimit := hcfg.readLimit ▸ ha.lim0
  have hlim1 : sb.readLimit < 2 ^ 63 := hcfg.readLimit ▸ ha.lim1
  rw [hloop, ← openAfter_acc]
  by_cases hf : f.fin = true
  · obtain ⟨k, rfl⟩ : ∃ k, fuel' = k + 1 := ⟨fuel' - 1, by omega⟩
    rw [readAllLoop_done k _ sb herr (Int.le_of_eq hrem) (hfin'.trans hf)]
    rw [if_pos hf, preOut_preOut, List.append_nil] at hout
    exact .inr ⟨_, fs, sb, rfl, ⟨hrem, herr, hcs, Int.le_refl 0, by show (0 : Int) < 2 ^ 63; decide, hlim0, hlim1⟩,
      ha.cfg.trans hcfg, hin, hwf, hfin'.trans hf, rfl, rs, hrep.trans hrs, hout⟩
  · rw [if_neg hf] at hout
    refine hfs sb fuel' (openAfter st f) ⟨⟨hrem, herr, hcs, ?_, ?_, hlim0, hlim1⟩, ha.cfg.trans hcfg, hin, hwf,
      hfin'.trans (by simpa using hf), hlen.trans ha.len, rs, hrep.trans hrs, hout⟩ (by omega)
    · rw [hlen, ha.len]; omega
    · rw [hlen, ha.len]; have := capOf_lt s1.readLimit ha.lim1; have := ha.cap; omega

theorem readAllLoop_frames (fs : List Frame) : ReadAllFrames s0 out0 ms fs := by
  induction fs with
  | nil =>
    intro s fuel o h hfuel
    obtain ⟨n, rfl⟩ : ∃ n, fuel = n + 2 := ⟨fuel - 2, by omega⟩
    refine .inl ⟨o.acc, .ueof, { s with input := [], readErr := some .ueof }, ?_, rfl,
      h.ended rfl rfl (List.append_nil _).symm rfl⟩
    rw [readAllLoop_frame (n + 1) o.acc s h.bnd.err (Int.le_of_eq h.bnd.rem) (by simpa using h.fin),
      advanceFrame_empty s h.bnd.rem h.input]
    exact readAllLoop_err n o.acc _ .ueof rfl
  | cons f fs' ih =>
    intro s fuel o h hfuel
    obtain ⟨n, rfl⟩ : ∃ n, fuel = n + 2 := ⟨fuel - 2, by simp at hfuel; omega⟩
    rw [readAllLoop_frame (n + 1) o.acc s h.bnd.err (Int.le_of_eq h.bnd.rem) (by simpa using h.fin)]
    rcases frame_step h with ⟨e, s', hadv, hne, hend⟩ | ⟨s1, hadv, hop, h1⟩ | ⟨s', hadv, hty, hacc⟩
    · rw [hadv]
      simp only
      rw [readAllLoop_err n o.acc _ e rfl, if_neg hne]
      exact .inl ⟨o.acc, e, _, rfl, rfl, hend⟩
    · rw [hadv]
      simp only [hop, Bool.false_eq_true, if_false]
      exact ih s1 (n + 1) o h1 (by simp at hfuel; omega)
    · rw [hadv]
      simp only [hty, Option.isSome, Bool.not_true, Bool.false_eq_true, if_false]
      exact readAllLoop_atPayload ih hacc n (by simp at hfuel; omega)

/-- **ReadMessage on frames**, between two messages (`NextReader` starts by resetting `readLength`). It stops where and
how the spec receiver stops (with `NextReader`'s error, or next to the partial data `ReadAll` returns); or it delivers
the spec receiver's next message `m` and stands between two messages again, in front of the remaining frames. -/
theorem readMessage_frames {s : RState} {fs : List Frame} (h : Sim s0 out0 ms { s with readLength := 0 } none fs) :
    (∃ e s', (readMessage s = .fail e s' ∨ ∃ m, readMessage s = .ok (m, some e) s') ∧ s'.readErr = some e ∧
        Ended s0 out0 ms s'.replies e) ∨
    (∃ m rest s', readMessage s = .ok (conv m, none) s' ∧
        Sim s0 out0 (ms ++ [m]) { s' with readLength := 0 } none rest) := by
  have hflen : fs.length < s.input.length + 1 := by
    have := serialiseAll_length fs; rw [← show s.input = _ from h.input] at this; omega
  rcases nextReaderLoop_frames fs _ (s.input.length + 1) h hflen with
    ⟨e, s', hnr, he, hend⟩ | ⟨f, rest, s1, hnr, hacc⟩
  · exact .inl ⟨e, s', .inl (by simp only [readMessage, nextReader, hnr]), he, hend⟩
  · have hs1len : 2 * rest.length ≤ s1.input.length := by
      have := serialiseAll_length rest; rw [hacc.pay.input]; simp; omega
    have hrm : ∀ data e s', readAllLoop (2 * s1.input.length + 4) [] s1 = .ok (data, e) s' →
        readMessage s = .ok ({ ty := f.opcode, compressed := f.rsv1, data := data }, e) s' := fun _ _ _ h => by
      simp only [readMessage, nextReader, hnr, h, hacc.dec rfl]
    rcases readAllLoop_atPayload (readAllLoop_frames rest) hacc (2 * s1.input.length + 3) (by omega) with
      ⟨data, e, s', hra, he, hend⟩ | ⟨data, rest', s', hra, hidle⟩
    · exact .inl ⟨e, s', .inr ⟨_, hrm _ _ _ hra⟩, he, hend⟩
    · exact .inr ⟨{ ty := f.opcode, compressed := f.rsv1, data := data }, rest', s', hrm _ _ _ hra, hidle⟩

theorem sessionLoop_frames (acc : List Msg) :
    ∀ (fuel : Nat) (ms : List Spec.Ws.Msg) (fs : List Frame) (s : RState),
      Sim s0 out0 ms { s with readLength := 0 } none fs → s.input.length + 2 ≤ fuel →
      ∃ t, sessionLoop fuel s (acc ++ ms.map conv) = some t ∧ t.msgs = acc ++ out0.msgs.map conv ∧
        t.final.replies = s0.replies ++ out0.replies ∧ EndErr out0.fin t.err ∧ t.final.readErr = some t.err := by
  intro fuel
  induction fuel with
  | zero => intro _ _ _ _ h; omega
  | succ k ih =>
    intro ms fs s h hfuel
    rcases readMessage_frames h with ⟨e, s', hrm, he, hend⟩ | ⟨m, rest, s', hrm, h'⟩
    · rw [hend.msgs]
      rcases hrm with hrm | ⟨m, hrm⟩
      · exact ⟨⟨_, e, 0, s'⟩, by simp only [sessionLoop, hrm], rfl, hend.replies, hend.fin, he⟩
      · exact ⟨⟨_, e, m.data.length, s'⟩, by simp only [sessionLoop, hrm], rfl, hend.replies, hend.fin, he⟩
    · have hshrink := ((readMessage_post s).of_ok hrm).1
      obtain ⟨t, t1, t2⟩ := ih (ms ++ [m]) rest s' h' (by omega)
      refine ⟨t, ?_, t2⟩
      simpa only [sessionLoop, hrm, List.map_append, List.map_cons, List.map_nil, List.append_assoc] using t1

theorem session_frames (isServer deflate : Bool) (L : Int) (hL0 : 0 ≤ L) (hL1 : L < 2 ^ 63) (fs : List Frame)
    (hwf : ∀ f ∈ fs, f.WF) :
    ∃ t, session (init isServer deflate L (serialiseAll fs)) = some t ∧
      t.msgs = (recvFrom (roleOf isServer) deflate (capOf L) none fs).msgs.map conv ∧
      t.final.replies = (recvFrom (roleOf isServer) deflate (capOf L) none fs).replies ∧
      EndErr (recvFrom (roleOf isServer) deflate (capOf L) none fs).fin t.err ∧ t.final.readErr = some t.err :=
  sessionLoop_frames [] _ [] fs (init isServer deflate L (serialiseAll fs))
    ⟨⟨rfl, rfl, rfl, Int.le_refl 0, by show (0 : Int) < 2 ^ 63; decide, hL0, hL1⟩, ⟨rfl, rfl, rfl⟩, rfl, hwf, rfl,
      rfl, [], rfl, rfl⟩ (Nat.le_refl _)

end Oryx.WsRead
