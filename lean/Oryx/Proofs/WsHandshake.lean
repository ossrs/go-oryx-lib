/-
  Lemmas about the websocket opening-handshake model (Model.WsHandshake): util.go's token octets are RFC 7230's `tchar`;
  the fuel of the list parsers is never exhausted; `tokenListContainsValue` decides membership in a `1#token` list and
  `parseExtensions` reads back the extension lists the grammar writes (one step lemma per loop on a rendered item, then
  an induction over the list); the server's and the client's decisions stated outright; the library's client and server
  agree on what they negotiated; `parseURL` on well-formed ws-URIs.
-/
import Oryx.Model.WsHandshake
namespace Oryx.Model.WsHs
open Oryx

/-- Closed goals over `ascii "…"` are evaluated after `repeat rw [ascii_ofList]`: the kernel reads a string literal as
`String.ofList [chars]`, and `toList` of that runs the UTF-8 decoder on every character unless the round trip is
rewritten away first. -/
theorem ascii_ofList (l : List Char) : ascii (String.ofList l) = l.map (fun c => c.toNat.toUInt8) := by
  rw [ascii, String.toList_ofList]

/-! ## octet classes -/

/-- RFC 7230 `tchar`, written from the grammar: `"!#$%&'*+-.^_`|~"`, DIGIT, ALPHA. -/
def isTchar (c : UInt8) : Bool :=
  [33, 35, 36, 37, 38, 39, 42, 43, 45, 46, 94, 95, 96, 124, 126].contains c ||
  (48 ≤ c && c ≤ 57) || (65 ≤ c && c ≤ 90) || (97 ≤ c && c ≤ 122)

theorem token_octet_is_tchar : ∀ c : UInt8, isTokenOctet c = isTchar c := by
  apply forall_u8; decide +kernel

theorem space_octet_iff : ∀ c : UInt8, isSpaceOctet c = (c == 32 || c == 9 || c == 13 || c == 10) := by
  intro c; rfl

theorem token_not_space (c : UInt8) (h : isTokenOctet c = true) : isSpaceOctet c = false := by
  cases hs : isSpaceOctet c with
  | false => rfl
  | true =>
    simp only [isSpaceOctet, Bool.or_eq_true, beq_iff_eq] at hs
    rcases hs with ((rfl | rfl) | rfl) | rfl <;> exact absurd h (by decide)

/-! ## lexing: white space, tokens, and what may follow a token -/

theorem skipSpace_ows (w rest : Bytes) (h : w.all isSpaceOctet = true) : skipSpace (w ++ rest) = skipSpace rest :=
  List.dropWhile_append_of_pos (List.all_eq_true.1 h)

theorem skipSpace_cons {c : UInt8} (h : isSpaceOctet c = false) (t : Bytes) : skipSpace (c :: t) = c :: t :=
  List.dropWhile_cons_of_neg (by simp [h])

theorem skipSpace_length_le (s : Bytes) : (skipSpace s).length ≤ s.length :=
  (List.dropWhile_sublist _).length_le

theorem nextToken_length (s : Bytes) : (nextToken s).1.length + (nextToken s).2.length = s.length := by
  rw [← List.length_append, nextToken, List.takeWhile_append_dropWhile]

def isTok (t : Bytes) : Prop := t ≠ [] ∧ t.all isTokenOctet = true

theorem isTok.cons {t : Bytes} (ht : isTok t) : ∃ c r, t = c :: r ∧ isTokenOctet c = true := by
  obtain ⟨hne, hall⟩ := ht
  cases t with
  | nil => exact absurd rfl hne
  | cons c r => exact ⟨c, r, rfl, (Bool.and_eq_true _ _ ▸ hall : _ ∧ _).1⟩

theorem isTok.isEmpty {t : Bytes} (ht : isTok t) : t.isEmpty = false := by
  obtain ⟨c, r, rfl, _⟩ := ht.cons; rfl

theorem isTok.skipSpace {t : Bytes} (ht : isTok t) (rest : Bytes) : skipSpace (t ++ rest) = t ++ rest := by
  obtain ⟨c, r, rfl, hc⟩ := ht.cons
  exact skipSpace_cons (token_not_space c hc) _

theorem nextToken_append (t rest : Bytes) (ht : t.all isTokenOctet = true) (hr : (nextToken rest).1 = []) :
    nextToken (t ++ rest) = (t, rest) := by
  have h := List.takeWhile_append_dropWhile (p := isTokenOctet) (l := rest)
  simp only [nextToken] at hr ⊢
  rw [hr, List.nil_append] at h
  rw [List.takeWhile_append_of_pos (List.all_eq_true.1 ht), List.dropWhile_append_of_pos (List.all_eq_true.1 ht), hr, h,
    List.append_nil]

theorem nextToken_ows {w rest : Bytes} (hw : w.all isSpaceOctet = true) (hr : (nextToken rest).1 = []) :
    (nextToken (w ++ rest)).1 = [] := by
  cases w with
  | nil => exact hr
  | cons x xs =>
    refine List.takeWhile_cons_of_neg fun hx => ?_
    simp [token_not_space x hx] at hw

/-- What every loop lexes first: optional white space and a token, up to a tail that does not go on with a token
octet. -/
theorem nextToken_skipSpace_eq {w t rest : Bytes} (hw : w.all isSpaceOctet = true) (ht : isTok t) (hr : (nextToken rest).1 = []) :
    nextToken (skipSpace (w ++ (t ++ rest))) = (t, rest) := by
  rw [skipSpace_ows _ _ hw, ht.skipSpace, nextToken_append _ _ ht.2 hr]

theorem nextTokenOrQuoted_tok (v rest : Bytes) (hv : isTok v) (hr : (nextToken rest).1 = []) :
    nextTokenOrQuoted (v ++ rest) = (v, rest) := by
  obtain ⟨c, r, rfl, hc⟩ := hv.cons
  have h34 : c ≠ 34 := by
    intro h; subst h; revert hc; decide
  have : nextTokenOrQuoted (c :: r ++ rest) = nextToken (c :: r ++ rest) := by
    unfold nextTokenOrQuoted
    split
    · rename_i t heq
      exact absurd (List.cons.inj heq).1 h34
    · rfl
  rw [this]
  exact nextToken_append _ _ hv.2 hr

/-- what may follow a parameter or an extension name: nothing, a comma, a semicolon -/
def TailOK (t : Bytes) : Prop := t = [] ∨ ∃ r, t = 44 :: r ∨ t = 59 :: r

/-- what may follow a list element: nothing, a comma -/
def CommaTail (t : Bytes) : Prop := t = [] ∨ ∃ r, t = 44 :: r

theorem CommaTail.toTailOK {t : Bytes} (h : CommaTail t) : TailOK t :=
  h.imp id fun ⟨r, hr⟩ => ⟨r, Or.inl hr⟩

theorem TailOK.not_token {t : Bytes} (h : TailOK t) : (nextToken t).1 = [] := by
  rcases h with rfl | ⟨r, rfl | rfl⟩ <;> rfl

theorem TailOK.skipSpace {t : Bytes} (h : TailOK t) : skipSpace t = t := by
  rcases h with rfl | ⟨r, rfl | rfl⟩ <;> rfl

theorem TailOK.badStart {t : Bytes} (h : TailOK t) : badStart t = false := by
  rcases h with rfl | ⟨r, rfl | rfl⟩ <;> rfl

theorem TailOK.optValue {t : Bytes} (h : TailOK t) : optValue t = ([], t) := by
  rcases h with rfl | ⟨r, rfl | rfl⟩ <;> rfl

/-! ## the parsers' fuel is never exhausted

Each loop goes on only after lexing a non-empty token, and every lexer returns a suffix of its input. The proofs
follow the functions' own induction principles: every exit but the recursive call is immediate. -/

theorem nextToken_skipSpace_lt {s t r : Bytes} (h : nextToken (skipSpace s) = (t, r)) (ht : ¬t.isEmpty = true) :
    r.length < s.length := by
  have h1 := nextToken_length (skipSpace s)
  have h2 := skipSpace_length_le s
  rw [h] at h1
  cases t with
  | nil => exact absurd rfl ht
  | cons _ _ => simp only [List.length_cons] at h1; omega

theorem tlcvOneF_some (fuel : Nat) (s value : Bytes) (h : s.length < fuel) : (tlcvOneF fuel s value).isSome = true := by
  fun_induction tlcvOneF fuel s value
  case case1 => omega
  case case6 r htk ht _ _ rest hr _ _ ih =>   -- the loop goes on: a non-empty token, then a comma
    have h1 := nextToken_skipSpace_lt htk ht
    have h2 := skipSpace_length_le r
    rw [show skipSpace r = _ :: rest from hr, List.length_cons] at h2
    exact ih (by omega)
  all_goals rfl

theorem tlcv_fuel (s value : Bytes) : (tlcvOneF (s.length + 1) s value).isSome = true :=
  tlcvOneF_some _ _ _ (Nat.lt_succ_self _)

theorem quotedEsc_rest_le (acc : Bytes) (esc : Bool) (s : Bytes) : (quotedEsc acc esc s).2.length ≤ s.length := by
  fun_induction quotedEsc acc esc s
  case case1 => exact Nat.le_refl _
  case case4 => exact Nat.le_succ _   -- the closing quote
  all_goals exact Nat.le_succ_of_le ‹_›

theorem quotedPlain_rest_le (acc : Bytes) (s : Bytes) : (quotedPlain acc s).2.length ≤ s.length := by
  fun_induction quotedPlain acc s
  case case1 => exact Nat.le_refl _
  case case2 => exact Nat.le_succ _   -- the closing quote
  case case3 => exact Nat.le_succ_of_le (quotedEsc_rest_le ..)
  case case4 ih => exact Nat.le_succ_of_le ih

theorem nextToken_rest_le (s : Bytes) : (nextToken s).2.length ≤ s.length := by
  have := nextToken_length s; omega

theorem nextTokenOrQuoted_rest_le (s : Bytes) : (nextTokenOrQuoted s).2.length ≤ s.length := by
  unfold nextTokenOrQuoted
  split
  · exact Nat.le_succ_of_le (quotedPlain_rest_le _ _)
  · exact nextToken_rest_le s

theorem optValue_rest_le (s : Bytes) : (optValue s).2.length ≤ s.length := by
  unfold optValue
  split
  · rename_i s2
    have h1 := skipSpace_length_le s2
    have h2 := nextTokenOrQuoted_rest_le (skipSpace s2)
    have h3 := skipSpace_length_le (nextTokenOrQuoted (skipSpace s2)).2
    simp only [List.length_cons]; omega
  · exact Nat.le_refl _

theorem parseParamsF_good (fuel : Nat) (s : Bytes) (ext : Ext) (h : s.length < fuel) :
    parseParamsF fuel s ext ≠ .fuel ∧ ∀ e rest, parseParamsF fuel s ext = .ok e rest → rest.length ≤ s.length := by
  fun_induction parseParamsF fuel s ext
  case case1 => omega
  case case4 s _ s1 hs ks _ vs _ ih =>   -- the loop goes on: `;`, a key, its optional value
    have h0 := skipSpace_length_le s
    rw [hs, List.length_cons] at h0
    have h1 := skipSpace_length_le s1
    have h2 : ks.2.length ≤ _ := nextToken_rest_le (skipSpace s1)
    have h3 := skipSpace_length_le ks.2
    have h4 : vs.2.length ≤ _ := optValue_rest_le (skipSpace ks.2)
    have ⟨i1, i2⟩ := ih (by omega)
    exact ⟨i1, fun e rest he => Nat.le_trans (i2 e rest he) (by omega)⟩
  case case5 =>   -- no `;`: the rest is handed back
    exact ⟨nofun, fun e rest he => by cases he; exact skipSpace_length_le _⟩
  all_goals exact ⟨nofun, nofun⟩

theorem parseExtValueF_some (fuel : Nat) (s : Bytes) (acc : List Ext) (h : s.length < fuel) :
    (parseExtValueF fuel s acc).isSome = true := by
  fun_induction parseExtValueF fuel s acc
  case case1 => omega
  case case3 s1 _ _ hp =>   -- the parameter loop out of fuel
    exact absurd hp (parseParamsF_good _ s1 _ (Nat.lt_add_of_pos_right (by decide))).1
  case case7 s1 htk ht _ _ rest _ hp ih =>   -- the loop goes on: an extension, then a comma
    have h1 := nextToken_skipSpace_lt htk ht
    have h2 := (parseParamsF_good _ s1 _ (Nat.lt_add_of_pos_right (by decide))).2 _ _ hp
    exact ih (by rw [List.length_cons] at h2; omega)
  all_goals rfl

theorem parseExtValueF_fuel (s : Bytes) (acc : List Ext) : (parseExtValueF (s.length + 1) s acc).isSome = true :=
  parseExtValueF_some _ _ _ (Nat.lt_succ_self _)

/-! ## `tokenListContainsValue` decides membership in a rendered `1#token` list -/

/-- One element of a `1#token` header value as it appears on the wire: optional white space, a token, optional
white space. -/
structure Elem where
  pre : Bytes
  tok : Bytes
  post : Bytes

def Elem.wf (e : Elem) : Prop :=
  e.pre.all isSpaceOctet = true ∧ e.tok ≠ [] ∧ e.tok.all isTokenOctet = true ∧ e.post.all isSpaceOctet = true

def renderElems : List Elem → Bytes
  | [] => []
  | [e] => e.pre ++ e.tok ++ e.post
  | e :: e' :: es => e.pre ++ e.tok ++ e.post ++ 44 :: renderElems (e' :: es)

theorem tlcvOneF_step (fuel : Nat) (e : Elem) (he : e.wf) (tl value : Bytes) (ht : CommaTail tl) :
    tlcvOneF (fuel + 1) (e.pre ++ e.tok ++ e.post ++ tl) value =
      match (generalizing := false) tl with
      | [] => some (eqFoldC e.tok value)
      | _ :: r => if eqFoldC e.tok value then some true else tlcvOneF fuel r value := by
  obtain ⟨h1, h2, h3, h4⟩ := he
  have hT := ht.toTailOK
  rw [tlcvOneF, List.append_assoc, List.append_assoc, nextToken_skipSpace_eq h1 ⟨h2, h3⟩ (nextToken_ows h4 hT.not_token)]
  simp only [isTok.isEmpty ⟨h2, h3⟩, Bool.false_eq_true, ↓reduceIte, skipSpace_ows _ _ h4, hT.skipSpace]
  rcases ht with rfl | ⟨r, rfl⟩ <;> simp

theorem tlcvOneF_rendered (l : List Elem) (hl : l ≠ []) (hwf : ∀ e ∈ l, e.wf) (value : Bytes) :
    ∀ fuel, (renderElems l).length < fuel → tlcvOneF fuel (renderElems l) value = some (l.any (fun e => eqFoldC e.tok value)) := by
  induction l with
  | nil => exact absurd rfl hl
  | cons e es ih =>
    intro fuel hf
    cases fuel with
    | zero => omega
    | succ n =>
      have he := hwf e List.mem_cons_self
      cases es with
      | nil => simpa [renderElems] using tlcvOneF_step n e he [] value (Or.inl rfl)
      | cons e' es' =>
        rw [renderElems, tlcvOneF_step n e he _ value (Or.inr ⟨_, rfl⟩)]
        simp only
        rw [ih (by simp) (fun x hx => hwf x (List.mem_cons_of_mem _ hx)) n (by
          simp only [renderElems, List.length_append, List.length_cons] at hf ⊢; omega)]
        cases h : eqFoldC e.tok value <;> simp [h]

theorem tlcvOne_rendered (l : List Elem) (hl : l ≠ []) (hwf : ∀ e ∈ l, e.wf) (value : Bytes) :
    tlcvOne (renderElems l) value = l.any (fun e => eqFoldC e.tok value) := by
  unfold tlcvOne
  rw [tlcvOneF_rendered l hl hwf value _ (Nat.lt_succ_self _)]
  rfl

/-! ## parseExtensions reads back the extension lists the grammar writes -/

/-- A parameter as the library itself writes it: `; key` or `; key=value` (key and value tokens; an empty value = no `=`). -/
def renderParam (p : Bytes × Bytes) : Bytes := [59, 32] ++ p.1 ++ (if p.2.isEmpty then [] else 61 :: p.2)

def renderExt (e : Bytes × List (Bytes × Bytes)) : Bytes := e.1 ++ e.2.flatMap renderParam

def renderExts : List (Bytes × List (Bytes × Bytes)) → Bytes
  | [] => []
  | [e] => renderExt e
  | e :: e' :: es => renderExt e ++ [44, 32] ++ renderExts (e' :: es)

/-- what the parser makes of one extension: `""` ↦ name, then the parameters in order (`setKV`: a repeated key keeps its place, last value) -/
def extOf (e : Bytes × List (Bytes × Bytes)) : Ext := e.2.foldl (fun acc p => setKV acc p.1 p.2) [([], e.1)]

def ParamOK (p : Bytes × Bytes) : Prop := isTok p.1 ∧ (p.2 = [] ∨ isTok p.2)

def ExtOK (e : Bytes × List (Bytes × Bytes)) : Prop := isTok e.1 ∧ ∀ p ∈ e.2, ParamOK p

theorem params_tailOK (ps : List (Bytes × Bytes)) (rest : Bytes) (hr : TailOK rest) :
    TailOK (ps.flatMap renderParam ++ rest) := by
  cases ps with
  | nil => exact hr
  | cons p ps' => exact Or.inr ⟨_, Or.inr (by simp only [List.flatMap_cons, renderParam, List.cons_append, List.append_assoc]; rfl)⟩

theorem parseParamsF_step (fuel : Nat) (k v tl : Bytes) (ext : Ext) (hk : isTok k) (hv : v = [] ∨ isTok v)
    (ht : TailOK tl) :
    parseParamsF (fuel + 1) (renderParam (k, v) ++ tl) ext = parseParamsF fuel tl (setKV ext k v) := by
  -- what follows the key, `=value` or nothing and then the tail, does not go on with a token octet and yields the value
  obtain ⟨vt, hvt, h1, h2, h3⟩ : ∃ vt, (if v.isEmpty then [] else 61 :: v) ++ tl = vt ∧
      (nextToken vt).1 = [] ∧ skipSpace vt = vt ∧ optValue vt = (v, tl) := by
    rcases hv with rfl | hv
    · exact ⟨_, rfl, ht.not_token, ht.skipSpace, ht.optValue⟩
    · refine ⟨61 :: (v ++ tl), by rw [hv.isEmpty]; rfl, rfl, rfl, ?_⟩
      simp only [optValue, hv.skipSpace, nextTokenOrQuoted_tok _ _ hv ht.not_token, ht.skipSpace]
  have hshape : renderParam (k, v) ++ tl = 59 :: ([32] ++ (k ++ vt)) := by simp [renderParam, ← hvt]
  rw [hshape, parseParamsF, skipSpace_cons (by decide)]
  simp only [nextToken_skipSpace_eq (w := [32]) rfl hk h1, hk.isEmpty, Bool.false_eq_true, ↓reduceIte, h2, h3, ht.badStart]

theorem parseParamsF_rendered (ps : List (Bytes × Bytes)) (hps : ∀ p ∈ ps, ParamOK p) (rest : Bytes) (hr : CommaTail rest) :
    ∀ (ext : Ext) (fuel : Nat), (ps.flatMap renderParam ++ rest).length < fuel →
      parseParamsF fuel (ps.flatMap renderParam ++ rest) ext = .ok (ps.foldl (fun acc p => setKV acc p.1 p.2) ext) rest := by
  have hrT := hr.toTailOK
  induction ps with
  | nil =>
    intro ext fuel hf
    cases fuel with
    | zero => omega
    | succ n => rcases hr with rfl | ⟨r, rfl⟩ <;> rfl
  | cons p ps' ih =>
    intro ext fuel hf
    cases fuel with
    | zero => omega
    | succ n =>
      obtain ⟨hk, hv⟩ := hps p List.mem_cons_self
      rw [List.flatMap_cons, List.append_assoc, parseParamsF_step n p.1 p.2 _ ext hk hv (params_tailOK ps' rest hrT)]
      exact ih (fun q hq => hps q (List.mem_cons_of_mem _ hq)) _ n (by
        simp only [List.flatMap_cons, List.length_append, renderParam, List.length_cons] at hf ⊢; omega)

theorem parseExtValueF_step (fuel : Nat) (lead : Bytes) (e : Bytes × List (Bytes × Bytes)) (tl : Bytes) (acc : List Ext)
    (hl : lead.all isSpaceOctet = true) (he : ExtOK e) (ht : CommaTail tl) :
    parseExtValueF (fuel + 1) (lead ++ (renderExt e ++ tl)) acc =
      match (generalizing := false) tl with
      | [] => some (acc ++ [extOf e])
      | _ :: r => parseExtValueF fuel r (acc ++ [extOf e]) := by
  have hT := params_tailOK e.2 tl ht.toTailOK
  rw [renderExt, List.append_assoc, parseExtValueF, nextToken_skipSpace_eq hl he.1 hT.not_token]
  simp only [he.1.isEmpty, Bool.false_eq_true, ↓reduceIte]
  rw [parseParamsF_rendered e.2 he.2 tl ht _ _ (by omega)]
  rcases ht with rfl | ⟨r, rfl⟩ <;> simp [extOf]

theorem parseExtValueF_rendered (es : List (Bytes × List (Bytes × Bytes))) (hne : es ≠ []) (hok : ∀ e ∈ es, ExtOK e) :
    ∀ (lead : Bytes) (acc : List Ext) (fuel : Nat), lead.all isSpaceOctet = true → (lead ++ renderExts es).length < fuel →
      parseExtValueF fuel (lead ++ renderExts es) acc = some (acc ++ es.map extOf) := by
  induction es with
  | nil => exact absurd rfl hne
  | cons e es' ih =>
    intro lead acc fuel hlead hf
    cases fuel with
    | zero => omega
    | succ n =>
      have he := hok e List.mem_cons_self
      cases es' with
      | nil => simpa [renderExts] using parseExtValueF_step n lead e [] acc hlead he (Or.inl rfl)
      | cons e' es'' =>
        have hshape : renderExts (e :: e' :: es'') = renderExt e ++ (44 :: ([32] ++ renderExts (e' :: es''))) := by
          simp [renderExts]
        rw [hshape] at hf ⊢
        rw [parseExtValueF_step n lead e _ acc hlead he (Or.inr ⟨_, rfl⟩)]
        simp only
        rw [ih (by simp) (fun x hx => hok x (List.mem_cons_of_mem _ hx)) [32] (acc ++ [extOf e]) n (by decide)
          (by simp only [List.length_append, List.length_cons] at hf ⊢; omega)]
        simp

theorem parseExtensions_rendered (es : List (Bytes × List (Bytes × Bytes))) (hne : es ≠ []) (hok : ∀ e ∈ es, ExtOK e) :
    parseExtensions [renderExts es] = es.map extOf := by
  unfold parseExtensions parseExtValue
  simp only [List.foldl_cons, List.foldl_nil]
  have := parseExtValueF_rendered es hne hok [] [] ((renderExts es).length + 1) rfl (by simp)
  simp only [List.nil_append] at this
  rw [this]; rfl

/-! ## headers as the receiving side reads them -/

theorem hget_append (a b : Header) (k : Bytes) : hget (a ++ b) k = hget a k ++ hget b k := by
  simp [hget]

theorem hget_cons (n : Bytes) (vs : List Bytes) (h : Header) (k : Bytes) :
    hget ((n, vs) :: h) k = (if n = k then vs else []) ++ hget h k := by
  by_cases e : n = k <;> simp [hget, e]

theorem hfirst_of_hget {h : Header} {k v : Bytes} {vs : List Bytes} (e : hget h k = v :: vs) : hfirst h k = v := by
  rw [hfirst, e]; rfl

theorem transport_append (a b : Header) : transport (a ++ b) = transport a ++ transport b := by
  simp [transport]

theorem hget_transport_nil (k : Bytes) : hget (transport []) k = [] := rfl

theorem hget_transport_cons (n : Bytes) (vs : List Bytes) (h : Header) (k : Bytes) :
    hget (transport ((n, vs) :: h)) k = (if canon n = k then vs else []) ++ hget (transport h) k :=
  hget_cons ..

theorem hget_transport_ite (b : Prop) [Decidable b] (h₁ h₂ : Header) (k : Bytes) :
    hget (transport (if b then h₁ else h₂)) k = if b then hget (transport h₁) k else hget (transport h₂) k := by
  split <;> rfl

theorem hget_transport_none (h : Header) (k : Bytes) (hk : ∀ p ∈ h, canon p.1 ≠ k) : hget (transport h) k = [] := by
  induction h with
  | nil => rfl
  | cons p ps ih =>
    rw [hget_transport_cons, if_neg (hk _ List.mem_cons_self), ih fun q hq => hk q (List.mem_cons_of_mem _ hq)]
    rfl

/-! ## the server's decision, stated outright -/

def offersPmd (r : Request) : Bool :=
  (parseExtensions (hget r.header (ascii "Sec-Websocket-Extensions"))).any (fun e => extName e == pmd)

/-- Everything `Upgrade` requires of a request. -/
def acceptable (u : Upgrader) (respHdr : Option Header) (r : Request) : Bool :=
  r.method == ascii "GET"
  && !(respHdr.getD []).any (fun p => p.1 == ascii "Sec-Websocket-Extensions")
  && tokenListContainsValue (hget r.header (ascii "Connection")) (ascii "upgrade")
  && tokenListContainsValue (hget r.header (ascii "Upgrade")) (ascii "websocket")
  && tokenListContainsValue (hget r.header (ascii "Sec-Websocket-Version")) (ascii "13")
  && u.originOk
  && !(hfirst r.header (ascii "Sec-Websocket-Key")).isEmpty
  && !r.buffered

/-- An early exit with a value other than `x`. -/
theorem ite_eq_iff_of_ne {α} {p : Prop} [Decidable p] {a b x : α} (h : a ≠ x) :
    (if p then a else b) = x ↔ ¬p ∧ b = x := by
  by_cases hp : p <;> simp [hp, h]

/-- Each refusal of `upgrade` is an early exit with a value that is not `.accept` (`ite_eq_iff_of_ne`). -/
theorem upgrade_eq_accept_iff (ak : Bytes → Bytes) (u : Upgrader) (rh : Option Header) (r : Request)
    (l : Header) (c : Bool) (s : Bytes) :
    upgrade ak u rh r = .accept l c s ↔
      acceptable u rh r = true ∧ c = (u.enableCompression && offersPmd r) ∧ s = selectSubprotocol u r rh ∧
      l = fixedLines (ak (hfirst r.header (ascii "Sec-Websocket-Key"))) s c ++
        ((rh.getD []).filter (fun p => p.1 != ascii "Sec-Websocket-Protocol")).map (fun p => (p.1, p.2.map sanitize)) := by
  simp only [upgrade, acceptable, offersPmd, ite_eq_iff_of_ne, ne_eq, reduceCtorEq, not_false_eq_true,
    UpOut.accept.injEq, Bool.and_eq_true, Bool.not_eq_true', bne_iff_ne, beq_iff_eq, Bool.not_eq_true,
    Bool.not_eq_false, and_assoc, Decidable.not_not]
  constructor <;>
    (rintro ⟨h1, h2, h3, h4, h5, h6, h7, h8, rfl, rfl, rfl⟩; exact ⟨h1, h2, h3, h4, h5, h6, h7, h8, rfl, rfl, rfl⟩)

/-! ## the client's decision, stated outright -/

/-- the first permessage-deflate entry of the response, if any -/
def answeredPmd (h : Header) : Option Ext :=
  (parseExtensions (hget h (ascii "Sec-Websocket-Extensions"))).find? (fun e => extName e == pmd)

def responseOk (ak : Bytes → Bytes) (key : Bytes) (status : Nat) (h : Header) : Bool :=
  status == 101 && eqFoldC (hfirst h (ascii "Upgrade")) (ascii "websocket")
  && eqFoldC (hfirst h (ascii "Connection")) (ascii "upgrade")
  && hfirst h (ascii "Sec-Websocket-Accept") == ak key

theorem clientCheck_eq (ak : Bytes → Bytes) (key : Bytes) (status : Nat) (h : Header) :
    clientCheck ak key status h =
      if responseOk ak key status h then
        match answeredPmd h with
        | none => .accept false (hfirst h (ascii "Sec-Websocket-Protocol"))
        | some e =>
          if extHas e snct && extHas e cnct then .accept true (hfirst h (ascii "Sec-Websocket-Protocol"))
          else .invalidCompression
      else .badHandshake := by
  unfold clientCheck responseOk answeredPmd bne
  cases status == 101 <;> cases eqFoldC (hfirst h (ascii "Upgrade")) (ascii "websocket") <;>
    cases eqFoldC (hfirst h (ascii "Connection")) (ascii "upgrade") <;>
    cases hfirst h (ascii "Sec-Websocket-Accept") == ak key <;> rfl

theorem clientCheck_eq_bad_iff (ak : Bytes → Bytes) (key : Bytes) (status : Nat) (h : Header) :
    clientCheck ak key status h = .badHandshake ↔ responseOk ak key status h = false := by
  rw [clientCheck_eq]
  cases responseOk ak key status h
  · simp
  · cases answeredPmd h with
    | none => simp
    | some e => simp only [↓reduceIte]; split <;> simp

theorem clientCheck_eq_accept_iff (ak : Bytes → Bytes) (key : Bytes) (status : Nat) (h : Header) (c : Bool) (sub : Bytes) :
    clientCheck ak key status h = .accept c sub ↔
      responseOk ak key status h = true ∧ sub = hfirst h (ascii "Sec-Websocket-Protocol") ∧
      (match answeredPmd h with
       | none => c = false
       | some e => c = true ∧ extHas e snct = true ∧ extHas e cnct = true) := by
  have hacc : ∀ (a : Bool) (x : Bytes), ClientOut.accept a x = .accept c sub ↔ sub = x ∧ c = a := fun a x => by
    rw [ClientOut.accept.injEq, and_comm, @eq_comm _ x, @eq_comm _ a]
  rw [clientCheck_eq]
  cases responseOk ak key status h
  · simp
  · cases answeredPmd h with
    | none => simp only [↓reduceIte, hacc, true_and]
    | some e =>
      simp only [↓reduceIte, true_and]
      cases extHas e snct <;> cases extHas e cnct <;> simp [hacc]

/-! ## the library's two halves agree

The header names stay opaque in this section. A step that lets the elaborator or the kernel compare two `ascii "…"`
names by evaluation (`rfl`, `decide`, `subst`, `▸`, `assumption` among table rows) decodes both literals and runs
`canon`'s octet tests on every character; the two tables below evaluate each name once, and everything else rewrites
with their rows. -/

/-- the names the library's two halves look at in a REQUEST -/
def requestNames : List Bytes :=
  [ascii "Upgrade", ascii "Connection", ascii "Sec-Websocket-Key", ascii "Sec-Websocket-Version", ascii "Sec-Websocket-Extensions"]

/-- The header names of the handshake in net/http's spelling are pairwise different (a finite table; both
orientations, since `simp` rewrites `a = b` with `a ≠ b` but not `b = a`). -/
theorem names_distinct :
    ([ascii "Upgrade", ascii "Connection", ascii "Sec-Websocket-Key", ascii "Sec-Websocket-Version",
      ascii "Sec-Websocket-Extensions", ascii "Sec-Websocket-Protocol", ascii "Sec-Websocket-Accept"] : List Bytes).Pairwise
      (fun a b => a ≠ b ∧ b ≠ a) := by
  repeat rw [ascii_ofList]
  decide +kernel

/-- What `textproto` makes of the names as the library writes them: the four it writes in RFC 6455's spelling, then the
ones already in net/http's (a finite table; one evaluation over all ten rows is cheaper than two over the parts). -/
theorem canon_names :
    canon (ascii "Sec-WebSocket-Key") = ascii "Sec-Websocket-Key" ∧
    canon (ascii "Sec-WebSocket-Version") = ascii "Sec-Websocket-Version" ∧
    canon (ascii "Sec-WebSocket-Protocol") = ascii "Sec-Websocket-Protocol" ∧
    canon (ascii "Sec-WebSocket-Accept") = ascii "Sec-Websocket-Accept" ∧
    canon (ascii "Upgrade") = ascii "Upgrade" ∧ canon (ascii "Connection") = ascii "Connection" ∧
    canon (ascii "Sec-Websocket-Key") = ascii "Sec-Websocket-Key" ∧
    canon (ascii "Sec-Websocket-Version") = ascii "Sec-Websocket-Version" ∧
    canon (ascii "Sec-Websocket-Extensions") = ascii "Sec-Websocket-Extensions" ∧
    canon (ascii "Sec-Websocket-Protocol") = ascii "Sec-Websocket-Protocol" := by
  repeat rw [ascii_ofList]
  decide +kernel

theorem canon_requestNames : ∀ k ∈ requestNames, canon k = k := by
  simp only [requestNames, List.mem_cons, List.not_mem_nil, or_false, forall_eq_or_imp, forall_eq, canon_names, and_self]

theorem reservedRequestNames_eq (d : Dialer) :
    reservedRequestNames d = requestNames ++ (if d.subprotocols.isEmpty then [] else [ascii "Sec-Websocket-Protocol"]) := rfl

theorem reserved_canon (d : Dialer) (k : Bytes) (h : (reservedRequestNames d).contains k = true) :
    canon k ∈ requestNames ∨ (d.subprotocols.isEmpty = false ∧ canon k = ascii "Sec-Websocket-Protocol") := by
  rw [reservedRequestNames_eq, List.contains_iff_mem] at h
  rcases List.mem_append.1 h with h | h
  · exact Or.inl ((canon_requestNames k h).symm ▸ h)
  · cases hs : d.subprotocols.isEmpty with
    | true => simp [hs] at h
    | false =>
      rw [show k = ascii "Sec-Websocket-Protocol" by simpa [hs] using h]
      exact Or.inr ⟨rfl, by simp only [canon_names]⟩

theorem hget_request (d : Dialer) (key : Bytes) (user : Header)
    (hu : ∀ p ∈ user, canon p.1 ∉ requestNames) :
    let h := transport (ownHdr d key ++ user ++ extHdr d)
    hget h (ascii "Connection") = [ascii "Upgrade"] ∧
    hget h (ascii "Upgrade") = [ascii "websocket"] ∧
    hget h (ascii "Sec-Websocket-Version") = [ascii "13"] ∧
    hget h (ascii "Sec-Websocket-Key") = [key] ∧
    hget h (ascii "Sec-Websocket-Extensions") = (if d.enableCompression then [clientExtLine] else []) := by
  have hn : ∀ k ∈ requestNames, hget (transport user) k = [] := fun k hk =>
    hget_transport_none user k fun p hp heq => hu p hp (heq ▸ hk)
  have hd := names_distinct
  simp only [requestNames, List.pairwise_cons, List.mem_cons, List.not_mem_nil, or_false, forall_eq_or_imp, forall_eq] at hn hd
  simp only [ownHdr, extHdr, transport_append, hget_append, List.cons_append, List.nil_append, hget_transport_ite,
    hget_transport_cons, hget_transport_nil, hn, canon_names, hd, ↓reduceIte, List.append_nil, ite_self, and_self]

theorem hfirst_fixedLines (acc sub : Bytes) (c : Bool) :
    let h := transport (fixedLines acc sub c)
    hfirst h (ascii "Upgrade") = ascii "websocket" ∧
    hfirst h (ascii "Connection") = ascii "Upgrade" ∧
    hfirst h (ascii "Sec-Websocket-Accept") = acc ∧
    hfirst h (ascii "Sec-Websocket-Protocol") = sub ∧
    hget h (ascii "Sec-Websocket-Extensions") = (if c then [serverExtLine] else []) := by
  have hd := names_distinct
  simp only [List.pairwise_cons, List.mem_cons, List.not_mem_nil, or_false, forall_eq_or_imp, forall_eq] at hd
  simp only [fixedLines, hfirst, transport_append, hget_append, List.cons_append, List.nil_append, hget_transport_ite,
    hget_transport_cons, hget_transport_nil, canon_names, hd, ↓reduceIte, List.append_nil, ite_self,
    List.head?_cons, Option.getD_some, true_and]
  cases sub <;> simp

theorem ownValues_accepted :
    tokenListContainsValue [ascii "Upgrade"] (ascii "upgrade") = true ∧
    tokenListContainsValue [ascii "websocket"] (ascii "websocket") = true ∧
    tokenListContainsValue [ascii "13"] (ascii "13") = true ∧
    eqFoldC (ascii "websocket") (ascii "websocket") = true ∧
    eqFoldC (ascii "Upgrade") (ascii "upgrade") = true := by
  repeat rw [ascii_ofList]
  decide +kernel

theorem parseExtensions_serverExtLine : parseExtensions [serverExtLine] = [[([], pmd), (snct, []), (cnct, [])]] := by
  unfold serverExtLine pmd snct cnct
  repeat rw [ascii_ofList]
  decide +kernel

theorem extName_cons (x : Bytes) (e : Ext) : extName (([], x) :: e) = x := rfl

theorem clientCheck_fixedLines (ak : Bytes → Bytes) (key sub : Bytes) (c : Bool) :
    clientCheck ak key 101 (transport (fixedLines (ak key) sub c)) = .accept c sub := by
  obtain ⟨f1, f2, f3, f4, f5⟩ := hfirst_fixedLines (ak key) sub c
  have hr : responseOk ak key 101 (transport (fixedLines (ak key) sub c)) = true := by
    simp only [responseOk, f1, f2, f3, ownValues_accepted, beq_self_eq_true, Bool.and_self]
  rw [clientCheck_eq, hr, answeredPmd, f4, f5]
  cases c
  · rfl
  · simp only [↓reduceIte, parseExtensions_serverExtLine, List.find?_cons, extName_cons, beq_self_eq_true, extHas,
      List.any_cons, Bool.true_or, Bool.or_true, Bool.and_self]

theorem handshake_of_accept {ak : Bytes → Bytes} {d : Dialer} {u : Upgrader} {key : Bytes} {reqHdr h lines : Header}
    {c : Bool} {sub : Bytes}
    (h1 : clientRequest d key reqHdr = some h)
    (h2 : upgrade ak u none { method := ascii "GET", header := transport h } = .accept lines c sub) :
    handshake ak d u key reqHdr = some (.accept lines c sub, some (clientCheck ak key 101 (transport lines))) := by
  simp only [handshake, h1, h2]

theorem handshake_eq (ak : Bytes → Bytes) (d : Dialer) (u : Upgrader) (key : Bytes) (reqHdr : Header)
    (hkey : key ≠ []) (horigin : u.originOk = true)
    (huser : ∀ p ∈ reqHdr, canon p.1 ∉ requestNames ∧ (d.subprotocols.isEmpty = false → canon p.1 ≠ ascii "Sec-Websocket-Protocol")) :
    let r : Request :=
      { method := ascii "GET", header := transport (ownHdr d key ++ reqHdr.filter (fun p => p.1 != ascii "Host") ++ extHdr d) }
    let c := d.enableCompression && u.enableCompression
    let sub := selectSubprotocol u r none
    handshake ak d u key reqHdr = some (.accept (fixedLines (ak key) sub c) c sub, some (.accept c sub)) := by
  intro r c sub
  have hreq : clientRequest d key reqHdr = some (ownHdr d key ++ reqHdr.filter (fun p => p.1 != ascii "Host") ++ extHdr d) :=
    if_neg (Bool.not_eq_true _ ▸ List.any_eq_false.2 fun p hp hc =>
      (reserved_canon d p.1 hc).elim (huser p hp).1 fun ⟨h1, h2⟩ => (huser p hp).2 h1 h2)
  obtain ⟨g1, g2, g3, g4, g5⟩ := hget_request d key (reqHdr.filter (fun p => p.1 != ascii "Host"))
    fun p hp => (huser p (List.mem_filter.mp hp).1).1
  have hk : hfirst r.header (ascii "Sec-Websocket-Key") = key := hfirst_of_hget g4
  have hoff : offersPmd r = d.enableCompression := by
    simp only [offersPmd, r, g5]
    cases d.enableCompression
    · rfl
    · simp only [↓reduceIte, clientExtLine, parseExtensions_serverExtLine, List.any_cons, extName_cons, beq_self_eq_true,
        Bool.true_or]
  have hacc : acceptable u none r = true := by
    cases key with
    | nil => exact absurd rfl hkey
    | cons =>
      simp only [acceptable, hk, r, g1, g2, g3, ownValues_accepted, horigin, Option.getD_none, List.any_nil]
      rfl
  have hup : upgrade ak u none r = .accept (fixedLines (ak key) sub c) c sub :=
    (upgrade_eq_accept_iff ..).2 ⟨hacc, by rw [hoff, Bool.and_comm], rfl, by
      simp only [hk, Option.getD_none, List.filter_nil, List.map_nil, List.append_nil]⟩
  rw [handshake_of_accept hreq hup, clientCheck_fixedLines]

/-! ## ws URIs -/

theorem cutAt_append (c : UInt8) (a t : Bytes) (h : a.contains c = false) :
    cutAt c (a ++ t) = (cutAt c t).map fun p => (a ++ p.1, p.2) := by
  induction a with
  | nil => simp
  | cons x xs ih =>
    rw [List.contains_cons, Bool.or_eq_false_iff, beq_eq_false_iff_ne] at h
    rw [List.cons_append, cutAt, if_neg (by simpa using Ne.symm h.1), ih h.2]
    cases cutAt c t <;> rfl

/-- a ws-URI as RFC 6455 section 3 writes it: `ws:` or `wss:`, `//`, host[:port], a path (empty or starting with `/`),
optionally `?` and a query -/
def renderURI (secure : Bool) (host path query : Bytes) (hasQuery : Bool) : Bytes :=
  (if secure then ascii "wss://" else ascii "ws://") ++ (host ++ path ++ (if hasQuery then 63 :: query else []))

theorem parseAfterScheme_rendered (scheme host path query : Bytes) (hasQuery : Bool)
    (hh : host.contains 47 = false ∧ host.contains 63 = false ∧ host.contains 64 = false)
    (hp : path = [] ∨ ∃ t, path = 47 :: t) (hpq : path.contains 63 = false) (hq : hasQuery = false → query = []) :
    parseAfterScheme scheme (host ++ path ++ (if hasQuery then 63 :: query else [])) =
      some { scheme := scheme, host := host, path := if path.isEmpty then [47] else path, rawQuery := query } := by
  have hhp : (host ++ path).contains 63 = false := by rw [List.contains_append, hh.2.1, hpq]; rfl
  have hcutq : cutAt 63 (host ++ path ++ (if hasQuery then 63 :: query else [])) =
      (if hasQuery then some (host ++ path, query) else none) := by
    rw [cutAt_append 63 _ _ hhp]
    cases hasQuery <;> simp [cutAt]
  have hcutp : cutAt 47 (host ++ path) = (if path.isEmpty then none else some (host, path.tail)) := by
    rw [cutAt_append 47 _ _ hh.1]
    rcases hp with rfl | ⟨t, rfl⟩ <;> simp [cutAt]
  have h64 : ¬ (64 : UInt8) ∈ host := by simpa using hh.2.2
  unfold parseAfterScheme
  rw [hcutq]
  cases hasQuery with
  | true =>
    simp only [↓reduceIte, hcutp]
    rcases hp with rfl | ⟨t, rfl⟩ <;> simp [h64]
  | false =>
    simp only [Bool.false_eq_true, ↓reduceIte, List.append_nil, hcutp, hq rfl]
    rcases hp with rfl | ⟨t, rfl⟩ <;> simp [h64]

theorem parseURL_rendered (secure : Bool) (host path query : Bytes) (hasQuery : Bool)
    (hh : host.contains 47 = false ∧ host.contains 63 = false ∧ host.contains 64 = false)
    (hp : path = [] ∨ ∃ t, path = 47 :: t) (hpq : path.contains 63 = false) (hq : hasQuery = false → query = []) :
    parseURL (renderURI secure host path query hasQuery) =
      some { scheme := if secure then ascii "wss" else ascii "ws", host := host,
             path := if path.isEmpty then [47] else path, rawQuery := query } := by
  have s1 : ∀ r : Bytes, stripPrefix (ascii "ws://") (ascii "ws://" ++ r) = some r := fun r => rfl
  have s2 : ∀ r : Bytes, stripPrefix (ascii "ws://") (ascii "wss://" ++ r) = none := fun r => rfl
  have s3 : ∀ r : Bytes, stripPrefix (ascii "wss://") (ascii "wss://" ++ r) = some r := fun r => rfl
  unfold parseURL renderURI
  cases secure
  · simp only [Bool.false_eq_true, ↓reduceIte, s1]
    exact parseAfterScheme_rendered _ host path query hasQuery hh hp hpq hq
  · simp only [↓reduceIte, s2, s3]
    exact parseAfterScheme_rendered _ host path query hasQuery hh hp hpq hq

theorem hostPortNoPort_default (u : WsURL) (h : lastIndex 58 u.host ≤ lastIndex 93 u.host) :
    (hostPortNoPort u).1 = u.host ++ (if u.scheme == ascii "wss" || u.scheme == ascii "https" then ascii ":443" else ascii ":80")
    ∧ (hostPortNoPort u).2 = u.host := by
  unfold hostPortNoPort
  have : ¬ (lastIndex 58 u.host > lastIndex 93 u.host) := by omega
  simp [this]

theorem hostPortNoPort_explicit (u : WsURL) (h : lastIndex 58 u.host > lastIndex 93 u.host) :
    (hostPortNoPort u).1 = u.host := by
  unfold hostPortNoPort
  simp [h]

end Oryx.Model.WsHs
