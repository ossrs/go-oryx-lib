/-
  C03, part 3: what `DecodeMessage` makes of a packet the peer marshalled (the library's dispatch table
  as the relation `Arrives`), the composition with C01's `write_read_one` so that the statement is about
  bytes on the wire, and the chunk reader's own decoding of control messages.
-/
import Oryx.Proofs.RtmpPktRT
import Oryx.Proofs.Rtmp.Session
namespace Oryx.RtmpPkt
open Oryx Oryx.Res Oryx.Amf0 Oryx.Rtmp

theorem dispatchSt_congr (tbl : TxnTable) (m m' : Msg) (ht : m.hdr.ty = m'.hdr.ty) (hp : m.payload = m'.payload) :
    dispatchSt tbl m = dispatchSt tbl m' := by
  unfold dispatchSt; rw [ht, hp]

theorem dispatchSt_ctor (tbl : TxnTable) (m : Msg) {k : Kind}
    (hs : Gen.Rtmp.decodeMessageSkipsOneByte m.hdr.ty = false)
    (hk : ctorKind (Gen.Rtmp.decodeMessageArm m.hdr.ty) = some k) :
    dispatchSt tbl m = (unmarshal k m.payload, tbl) := by
  unfold dispatchSt
  split
  · next h0 => rw [List.eq_nil_of_length_eq_zero h0, unmarshal_nil]
  rw [hs]
  simp only [Bool.false_eq_true, if_false]
  split
  · next h => rw [h] at hk; cases hk
  · rw [ctorResult_some hk, decodeWith_ok]

theorem dispatchSt_amf (tbl : TxnTable) (m : Msg) (hty : m.hdr.ty = 20) :
    dispatchSt tbl m = decodeWith (parseAMFObject tbl m.payload) m.payload := by
  unfold dispatchSt
  split
  · next h0 => rw [List.eq_nil_of_length_eq_zero h0]; rfl
  rw [hty]
  have h1 : Gen.Rtmp.decodeMessageSkipsOneByte 20 = false := by decide
  have h2 : Gen.Rtmp.decodeMessageArm 20 = .parseAMFObject := by decide
  simp only [h1, h2, Bool.false_eq_true, if_false]

theorem parseAMFObject_response (tbl : TxnTable) {name : Bytes} (hn : name.length ≤ 65535) (tid : UInt64)
    (tl : Bytes) (hr : Gen.Rtmp.parseCommandArm name = .response) :
    parseAMFObject tbl (encode (.str name) ++ (encode (.num tid) ++ tl)) =
      match tbl.find tid with
      | none => (.err .generic, tbl)
      | some req => ctorResult (Gen.Rtmp.parseResponseArm req) (tbl.erase tid) := by
  unfold parseAMFObject
  rw [strDec_enc hn]
  simp only [hr]
  rw [sliceFrom_encode_append, Res.bind_ok, numDec_enc]
  rfl

theorem parseAMFObject_arm (tbl : TxnTable) {name : Bytes} (hn : name.length ≤ 65535) (tl : Bytes)
    (hr : Gen.Rtmp.parseCommandArm name ≠ .response) :
    parseAMFObject tbl (encode (.str name) ++ tl) = ctorResult (Gen.Rtmp.parseCommandArm name) tbl := by
  unfold parseAMFObject
  rw [strDec_enc hn]
  simp only []

theorem dispatchSt_cmd_arm (tbl : TxnTable) (m : Msg) (hty : m.hdr.ty = 20) {name tl : Bytes} (hn : name.length ≤ 65535)
    (hpl : m.payload = encode (.str name) ++ tl) {k : Kind} (hk : ctorKind (Gen.Rtmp.parseCommandArm name) = some k) :
    dispatchSt tbl m = (unmarshal k m.payload, tbl) := by
  have hr : Gen.Rtmp.parseCommandArm name ≠ .response := fun e => by rw [e] at hk; cases hk
  rw [dispatchSt_amf tbl m hty, hpl, parseAMFObject_arm tbl hn _ hr, ctorResult_some hk, decodeWith_ok]

theorem dispatchSt_cmd_response (tbl : TxnTable) (m : Msg) (hty : m.hdr.ty = 20) {name tl : Bytes} (hn : name.length ≤ 65535)
    {tid : UInt64} (hpl : m.payload = encode (.str name) ++ (encode (.num tid) ++ tl))
    (hr : Gen.Rtmp.parseCommandArm name = .response) {req : Bytes} (hf : tbl.find tid = some req) {k : Kind}
    (hk : ctorKind (Gen.Rtmp.parseResponseArm req) = some k) :
    dispatchSt tbl m = (unmarshal k m.payload, tbl.erase tid) := by
  rw [dispatchSt_amf tbl m hty, hpl, parseAMFObject_response tbl hn tid tl hr, hf]
  simp only []
  rw [ctorResult_some hk, decodeWith_ok]

/-- `Arrives tbl p q tbl'`: the library's dispatch table. A packet `p` marshalled by the peer is decoded,
with the requests `tbl` outstanding, as the packet `q`, leaving `tbl'`:
control packets, connect and publish as themselves; a `_result` as the response type of the outstanding
request with its transaction id (which is consumed); createStream, play and every other command as a
generic call. -/
inductive Arrives (tbl : TxnTable) : Packet → Packet → TxnTable → Prop where
  | setChunkSize (v : Nat) : Arrives tbl (.setChunkSize v) (.setChunkSize v) tbl
  | winAck (v : Nat) : Arrives tbl (.winAck v) (.winAck v) tbl
  | setPeerBw (v l : Nat) : Arrives tbl (.setPeerBw v l) (.setPeerBw v l) tbl
  | userControl (e d x : Nat) : Arrives tbl (.userControl e d x) (.userControl e d x) tbl
  | connect (c : ObjCall) : Arrives tbl (.connect c) (.connect c) tbl
  | publish (c : VarCall) (sn st : Bytes) (hn : ctorKind (Gen.Rtmp.parseCommandArm c.name) = some .publish) :
      Arrives tbl (.publish c sn st) (.publish c sn st) tbl
  | connectRes (c : ObjCall) (req : Bytes) (hf : tbl.find c.tid = some req)
      (hr : ctorKind (Gen.Rtmp.parseResponseArm req) = some .connectRes) :
      Arrives tbl (.connectRes c) (.connectRes c) (tbl.erase c.tid)
  | createStreamRes (c : VarCall) (sid : UInt64) (req : Bytes) (hn : Gen.Rtmp.parseCommandArm c.name = .response)
      (hf : tbl.find c.tid = some req) (hr : ctorKind (Gen.Rtmp.parseResponseArm req) = some .createStreamRes) :
      Arrives tbl (.createStreamRes c sid) (.createStreamRes c sid) (tbl.erase c.tid)
  | createStream (c : VarCall) (hn : ctorKind (Gen.Rtmp.parseCommandArm c.name) = some .call) :
      Arrives tbl (.createStream c) (.call c none) tbl
  | play (c : VarCall) (sn : Bytes) (hn : ctorKind (Gen.Rtmp.parseCommandArm c.name) = some .call) :
      Arrives tbl (.play c sn) (.call c (some (.str sn))) tbl
  | call (c : VarCall) (a : Option Val) (hn : ctorKind (Gen.Rtmp.parseCommandArm c.name) = some .call) :
      Arrives tbl (.call c a) (.call c a) tbl

theorem VarCall.marshal_append (c : VarCall) (tl : Bytes) :
    c.marshal ++ tl = encode (.str c.name) ++ (encode (.num c.tid) ++ (optEnc c.obj ++ tl)) := by
  simp only [VarCall.marshal, List.append_assoc]

theorem dispatchSt_arrives (tbl tbl' : TxnTable) (p q : Packet) (hp : p.wf = true) (h : Arrives tbl p q tbl')
    (m : Msg) (hty : m.hdr.ty = p.msgType) (hpl : m.payload = p.marshal) :
    dispatchSt tbl m = (ok q, tbl') ∧ q.marshal = p.marshal := by
  -- each row supplies: `q` is a well-formed reading of the same bytes, and `q`'s constructor is the one chosen
  suffices hrow : q.wf = true ∧ q.marshal = p.marshal ∧ dispatchSt tbl m = (unmarshal q.kind m.payload, tbl') by
    obtain ⟨hq, hm, hd⟩ := hrow
    exact ⟨by rw [hd, hpl, ← hm, unmarshal_marshal q hq], hm⟩
  cases h with
  | setChunkSize | winAck | setPeerBw | userControl => exact ⟨hp, rfl, dispatchSt_ctor tbl m (hty ▸ rfl) (hty ▸ rfl)⟩
  | connect c =>
    obtain ⟨hc, hn, -⟩ := Packet.wf_iff.mp hp
    exact ⟨hp, rfl, dispatchSt_cmd_arm tbl m hty (ObjCall.wf_name hc) hpl (by rw [hn]; rfl)⟩
  | connectRes c req hf hr =>
    obtain ⟨hc, hn⟩ := Packet.wf_iff.mp hp
    exact ⟨hp, rfl, dispatchSt_cmd_response tbl m hty (ObjCall.wf_name hc) hpl (by rw [hn]; rfl) hf hr⟩
  | createStreamRes c sid req hn hf hr =>
    have hc := (Packet.wf_iff.mp hp).1
    exact ⟨hp, rfl, dispatchSt_cmd_response tbl m hty (VarCall.wf_name hc) (hpl.trans (c.marshal_append _)) hn hf hr⟩
  | publish c _ _ hn | call c _ hn =>
    have hc := (Packet.wf_iff.mp hp).1
    exact ⟨hp, rfl, dispatchSt_cmd_arm tbl m hty (VarCall.wf_name hc) (hpl.trans (c.marshal_append _)) hn⟩
  | createStream c hn =>
    have hc := Packet.wf_iff.mp hp
    refine ⟨Packet.wf_iff.mpr ⟨hc, rfl, .inr rfl⟩, by simp [Packet.marshal, optEnc], ?_⟩
    exact dispatchSt_cmd_arm tbl m hty (VarCall.wf_name hc) hpl hn
  | play c sn hn =>
    obtain ⟨hc, ho, hsn⟩ := Packet.wf_iff.mp hp
    refine ⟨Packet.wf_iff.mpr ⟨hc, decide_eq_true hsn, .inl ho⟩, by simp [Packet.marshal, optEnc], ?_⟩
    exact dispatchSt_cmd_arm tbl m hty (VarCall.wf_name hc) (hpl.trans (c.marshal_append _)) hn

theorem ctlOK_of_unmarshal {m : Msg} {k : Kind} {q : Packet} (hty : m.hdr.ty = k.msgType)
    (hu : unmarshal k m.payload = ok q) : m.CtlOK := by
  refine ⟨fun h => ?_, fun h => ?_, fun h => ?_⟩
  · rw [k.of_ctl.1 (hty ▸ h), unmarshal_setChunkSize] at hu
    split at hu
    · cases hu
    · omega
  · rw [k.of_ctl.2.1 (hty ▸ h), unmarshal_winAck] at hu
    split at hu
    · cases hu
    · omega
  · rw [k.of_ctl.2.2 (hty ▸ h), unmarshal_userControl] at hu
    split at hu
    · cases hu
    · omega

theorem msgOf_wf (p : Packet) (hp : p.wf = true) (sid : Nat) (hlen : p.marshal.length < 16777216) :
    (msgOf p sid).WF :=
  have hk := p.kind.cid_range
  ⟨hk.1, hk.2, (by decide : (0 : Nat) < 2147483648), marshal_length_pos p, hlen, p.kind.msgType_lt,
    Nat.mod_lt _ (by decide), ctlOK_of_unmarshal rfl (unmarshal_marshal p hp)⟩

theorem wire_dispatch (p q : Packet) (tbl tbl' : TxnTable) (hp : p.wf = true) (harr : Arrives tbl p q tbl')
    (sid : Nat) (hlen : p.marshal.length < 16777216)
    (c : Nat) (hc : 1 ≤ c) (st : Reader) (hic : st.inChunk = c) (hclean : Clean st) (rest : Bytes) (wtbl : TxnTable) :
    ∃ W m st', writePacket c wtbl p sid = (ok W, onPacketWritten wtbl p) ∧
      readMessage st (W ++ rest) = ok ((m, st'), rest) ∧ Clean st' ∧
      m.hdr.ty = p.msgType ∧ m.hdr.sid = sid % 4294967296 ∧ m.hdr.ts = 0 ∧ m.payload = p.marshal ∧
      dispatch tbl m = ok (q, tbl') ∧ q.marshal = p.marshal := by
  obtain ⟨W, st', hw, hr, hcl, _⟩ := write_read_one c hc (msgOf p sid) (msgOf_wf p hp sid hlen) st hic hclean rest
  obtain ⟨hd, hm⟩ := dispatchSt_arrives tbl tbl' p q hp harr (received (msgOf p sid)) rfl rfl
  refine ⟨W, received (msgOf p sid), st', by simp [writePacket, hw], hr, hcl, rfl, rfl, rfl, rfl, dispatch_eq_ok.mpr hd, hm⟩

theorem onMessageArrived_eq_decode (c : Nat) (m : Msg) (tbl : TxnTable) :
    onMessageArrived c m =
      (if m.hdr.ty = 1 ∨ m.hdr.ty = 4 ∨ m.hdr.ty = 5 then
         match (dispatchSt tbl m).1 with
         | .ok (.setChunkSize v) => ok v
         | .ok _ => ok c
         | .err _ => err .generic
         | .panic => .panic
       else ok c) := by
  unfold onMessageArrived
  show (if m.hdr.ty = 1 then _ else if m.hdr.ty = 5 then _ else if m.hdr.ty = 4 then _ else _) = _
  by_cases hty : m.hdr.ty = 1 ∨ m.hdr.ty = 4 ∨ m.hdr.ty = 5
  case neg =>
    rw [if_neg hty, if_neg fun h => hty (.inl h), if_neg fun h => hty (.inr (.inr h)), if_neg fun h => hty (.inr (.inl h))]
  rw [if_pos hty]
  rcases hty with h1 | h4 | h5
  · rw [dispatchSt_ctor tbl m (by rw [h1]; rfl) (k := .setChunkSize) (by rw [h1]; rfl), unmarshal_setChunkSize, if_pos h1]
    by_cases hl : m.payload.length < 4
    · rw [if_pos hl, if_pos hl]
    · rw [if_neg hl, if_neg hl]
  · rw [dispatchSt_ctor tbl m (by rw [h4]; rfl) (k := .userControl) (by rw [h4]; rfl), unmarshal_userControl,
      if_neg (by rw [h4]; decide), if_neg (by rw [h4]; decide), if_pos h4]
    by_cases hl : m.payload.length < 3
    · rw [if_pos hl, if_pos (.inl hl)]
    rw [if_neg hl]
    by_cases hs : m.payload.length < userControlSize (ofBE (m.payload.take 2))
    · rw [if_pos hs, if_pos (.inr hs)]
    · rw [if_neg hs, if_neg fun h => h.elim hl hs]
  · rw [dispatchSt_ctor tbl m (by rw [h5]; rfl) (k := .winAck) (by rw [h5]; rfl), unmarshal_winAck,
      if_neg (by rw [h5]; decide), if_pos h5]
    by_cases hl : m.payload.length < 4
    · rw [if_pos hl, if_pos hl]
    · rw [if_neg hl, if_neg hl]

end Oryx.RtmpPkt
