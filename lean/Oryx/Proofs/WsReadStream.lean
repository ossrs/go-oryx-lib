/-
  The websocket reader model `Oryx.WsRead` on EVERY byte stream and from every state: what each stage of
  `advanceFrame` guarantees (`Out.Post`: no panic, a postcondition for the returned state, one for a failure
  state), composed into `advanceFrame_post`, and one theorem per loop on top of it (`nextReaderLoop_post`,
  `readAllLoop_post`, `readMessage_post`, `sessionLoop_post`): no panic, fuel never exhausted, the read limit,
  complete delivery. Also the equations that evaluate one stage or one loop iteration on a given input
  (`readHdr_ok`, `readLength_16`, `nextReaderLoop_step`, `readAllLoop_chunk`, …), with which `Oryx.Proofs.WsRead`
  runs the model on frame images to refine the RFC receiver.
-/
import Oryx.Model.WsRead
namespace Oryx.WsRead
open Oryx Oryx.Gen.Websocket

/-! ### the monad -/

@[simp] theorem bind_def (x : M α) (f : α → M β) (s : RState) :
    (x >>= f) s = match x s with
      | .ok a s' => f a s'
      | .fail e s' => .fail e s'
      | .panic => .panic := rfl

theorem bind_of_ok {x : M α} {f : α → M β} {s s1 : RState} {a : α} (h : x s = .ok a s1) :
    (x >>= f) s = f a s1 := by rw [bind_def, h]

theorem bind_of_fail {x : M α} {f : α → M β} {s s1 : RState} {e : RErr} (h : x s = .fail e s1) :
    (x >>= f) s = .fail e s1 := by rw [bind_def, h]

@[simp] theorem pure_def (a : α) (s : RState) : (pure a : M α) s = .ok a s := rfl
@[simp] theorem get_def (s : RState) : get s = .ok s s := rfl
@[simp] theorem modify_def (f : RState → RState) (s : RState) : modify f s = .ok () (f s) := rfl
@[simp] theorem throw_def (e : RErr) (s : RState) : (throw e : M α) s = .fail e s := rfl
@[simp] theorem mpanic_def (s : RState) : (mpanic : M α) s = .panic := rfl

/-! ### int64 -/

theorem wrap64_neg_of_ge {n : Nat} (h1 : 2 ^ 63 ≤ n) (h2 : n < 2 ^ 64) : wrap64 n < 0 := by
  unfold wrap64; omega

theorem wrap64_nat_nonneg {n : Nat} (h : n < 2 ^ 63) : wrap64 (n : Int) = (n : Int) := by
  unfold wrap64; omega

theorem wrap64_lt (n : Int) : wrap64 n < 2 ^ 63 := by unfold wrap64; omega
theorem wrap64_ge (n : Int) : -(2 ^ 63) ≤ wrap64 n := by unfold wrap64; omega

theorem wrap64_add_nonneg {a b : Int} (ha : 0 ≤ a) (ha' : a < 2 ^ 63) (hb : 0 ≤ b) (hb' : b < 2 ^ 63)
    (h : 0 ≤ wrap64 (a + b)) : wrap64 (a + b) = a + b := by
  unfold wrap64 at *; omega

/-! ### primitives -/

/-- `readN`/`skipN` test "are there `n` bytes" on the taken prefix (linear time in the oracle); this is
the same as comparing with the input length. -/
theorem readN_eq (n : Nat) (s : RState) :
    readN n s = if n ≤ s.input.length then .ok (s.input.take n) { s with input := s.input.drop n }
                else .fail .ueof { s with input := [] } := by
  unfold readN
  simp only [take_length_eq_iff]

theorem skipN_eq (n : Nat) (s : RState) :
    skipN n s = if n ≤ s.input.length then .ok () { s with input := s.input.drop n }
                else .fail .eof { s with input := [] } := by
  unfold skipN
  simp only [take_length_eq_iff]

theorem readN_ok (n : Nat) (s : RState) (h : n ≤ s.input.length) :
    readN n s = .ok (s.input.take n) { s with input := s.input.drop n } := by
  simp [readN_eq, h]

theorem readN_short (n : Nat) (s : RState) (h : s.input.length < n) :
    readN n s = .fail .ueof { s with input := [] } := by
  simp [readN_eq, Nat.not_le.mpr h]

theorem readN_append (s : RState) (p tail : Bytes) (h : s.input = p ++ tail) :
    readN p.length s = .ok p { s with input := tail } := by
  rw [readN_eq, if_pos (by simp [h]), h, take_append_len _ _ rfl, drop_append_len _ _ rfl]

/-- The Go bit operations on the two header bytes as arithmetic: the fields of RFC 6455 §5.2, as
`Spec.Ws.parseFrame` reads them. -/
theorem decodeHdr_eq (b0 b1 : UInt8) :
    decodeHdr b0 b1 =
      { final := decide (b0.toNat / 128 = 1), rsv1 := decide (b0.toNat / 64 % 2 = 1),
        rsv23 := decide (b0.toNat / 32 % 2 = 1) || decide (b0.toNat / 16 % 2 = 1), frameType := b0.toNat % 16,
        mask := decide (b1.toNat / 128 = 1), len7 := b1.toNat % 128 } := by
  have k0 : ∀ b : UInt8, (b &&& UInt8.ofNat finalBit != 0) = decide (b.toNat / 128 = 1) ∧
      (b &&& UInt8.ofNat rsv1Bit != 0) = decide (b.toNat / 64 % 2 = 1) ∧
      (b &&& UInt8.ofNat (rsv2Bit + rsv3Bit) != 0) = (decide (b.toNat / 32 % 2 = 1) || decide (b.toNat / 16 % 2 = 1)) ∧
      (b &&& 0xf).toNat = b.toNat % 16 := by apply forall_u8; decide +kernel
  have k1 : ∀ b : UInt8, (b &&& UInt8.ofNat maskBit != 0) = decide (b.toNat / 128 = 1) ∧
      (b &&& 0x7f).toNat = b.toNat % 128 := by apply forall_u8; decide +kernel
  obtain ⟨e1, e2, e3, e4⟩ := k0 b0
  obtain ⟨e5, e6⟩ := k1 b1
  rw [decodeHdr, e1, e2, e3, e4, e5, e6]

theorem decodeHdr_len7 (b0 b1 : UInt8) : (decodeHdr b0 b1).len7 < 128 := by
  rw [decodeHdr_eq]; exact Nat.mod_lt _ (by decide)

theorem maskBytes_length (key : Bytes) (pos : Nat) (bs : Bytes) : (maskBytes key pos bs).length = bs.length := by
  induction bs generalizing pos with
  | nil => rfl
  | cons b bs ih => simp [maskBytes, ih]

/-! ### single stages on given input -/

theorem skipPrev_noop (s : RState) (h : s.readRemaining ≤ 0) : skipPrev s = .ok () s := by
  simp [skipPrev, Int.not_lt.mpr h]

theorem readHdr_ok (s : RState) (b0 b1 : UInt8) (rest : Bytes) (h : s.input = b0 :: b1 :: rest) :
    readHdr s = .ok (decodeHdr b0 b1)
      { s with input := rest, readRemaining := wrap64 (decodeHdr b0 b1).len7 } := by
  simp [readHdr, readN_eq, h]

theorem readHdr_short (s : RState) (h : s.input.length < 2) :
    readHdr s = .fail .ueof { s with input := [] } := by
  simp [readHdr, readN_eq, Nat.not_le.mpr h]

theorem readLength_7 (h : Hdr) (s : RState) (h7 : h.len7 < 126) : readLength h s = .ok () s := by
  have n1 : (h.len7 == 126) = false := by simp; omega
  have n2 : (h.len7 == 127) = false := by simp; omega
  simp only [readLength, n1, n2, Bool.false_eq_true, if_false]

theorem readLength_16 (h : Hdr) (s : RState) {ext rest : Bytes} (h7 : h.len7 = 126) (hin : s.input = ext ++ rest)
    (hext : ext.length = 2) : readLength h s = .ok () { s with input := rest, readRemaining := ofBE ext } := by
  have hlt : ofBE ext < 256 ^ 2 := hext ▸ ofBE_lt ext
  have hrd := readN_append s ext rest hin
  rw [hext] at hrd
  simp [readLength, h7, hrd, wrap64_nat_nonneg (show ofBE ext < 2 ^ 63 by omega)]

theorem readLength_64 (h : Hdr) (s : RState) {ext rest : Bytes} (h7 : h.len7 = 127) (hin : s.input = ext ++ rest)
    (hext : ext.length = 8) :
    readLength h s =
      if 2 ^ 63 ≤ ofBE ext then protoErr { s with input := rest, readRemaining := wrap64 (ofBE ext) }
      else .ok () { s with input := rest, readRemaining := ofBE ext } := by
  have hlt : ofBE ext < 256 ^ 8 := hext ▸ ofBE_lt ext
  have hrd := readN_append s ext rest hin
  rw [hext] at hrd
  by_cases htop : 2 ^ 63 ≤ ofBE ext
  · simp [readLength, h7, hrd, htop, wrap64_neg_of_ge htop hlt]
  · simp [readLength, h7, hrd, htop, wrap64_nat_nonneg (Nat.lt_of_not_le htop)]
    omega

/-! ### outcomes with a postcondition -/

/-- Fields no stage of `advanceFrame` touches, whether it succeeds or fails, and the input only shrinks. -/
structure Eff (s s' : RState) : Prop where
  isServer : s'.isServer = s.isServer
  decompress : s'.decompress = s.decompress
  readLimit : s'.readLimit = s.readLimit
  readErr : s'.readErr = s.readErr
  len : s'.input.length ≤ s.input.length

theorem Eff.refl (s : RState) : Eff s s := ⟨rfl, rfl, rfl, rfl, Nat.le_refl _⟩

theorem Eff.trans {a b c : RState} (h1 : Eff a b) (h2 : Eff b c) : Eff a c :=
  ⟨h2.isServer.trans h1.isServer, h2.decompress.trans h1.decompress, h2.readLimit.trans h1.readLimit,
   h2.readErr.trans h1.readErr, Nat.le_trans h2.len h1.len⟩

/-- The outcome is not a panic; a returned value and state satisfy `P`, a failure state `F`. This is `Res.Sat`
of `Oryx.Base.Sat`, with its lemma names, for the reader's own monad: here a failure carries a state, and
`ReadAll` goes on from it, so a failure has a postcondition too. -/
def Out.Post (o : Out α) (P : α → RState → Prop) (F : RState → Prop) : Prop :=
  match o with
  | .ok a s => P a s
  | .fail _ s => F s
  | .panic => False

theorem Out.Post.bind {x : M α} {f : α → M β} {s : RState} {P : α → RState → Prop} {Q : β → RState → Prop}
    {F : RState → Prop} (hx : (x s).Post P F) (hf : ∀ a s1, P a s1 → (f a s1).Post Q F) :
    ((x >>= f) s).Post Q F := by
  rw [bind_def]
  cases h : x s <;> rw [h] at hx
  · exact hf _ _ hx
  · exact hx
  · exact hx

/-- `bind` for the stages that read bytes: the model writes "pass a failure or panic on, else continue with
`k`" as a `match` on an `Out Bytes`, arms in this order. The `match` below has to elaborate to the model's own
matcher, hence `Bytes` and not a type variable. -/
theorem Out.Post.andThen {o : Out Bytes} {k : Bytes → RState → Out β} {P : Bytes → RState → Prop}
    {Q : β → RState → Prop} {F : RState → Prop} (ho : o.Post P F) (hk : ∀ a s1, P a s1 → (k a s1).Post Q F) :
    (match (generalizing := false) o with
      | .panic => .panic
      | .fail e s => .fail e s
      | .ok a s => k a s : Out β).Post Q F := by
  cases o
  · exact hk _ _ ho
  · exact ho
  · exact ho

theorem Out.Post.imp {o : Out α} {P P' : α → RState → Prop} {F F' : RState → Prop} (h : o.Post P F)
    (hP : ∀ a s, P a s → P' a s) (hF : ∀ s, F s → F' s) : o.Post P' F' := by
  cases o
  · exact hP _ _ h
  · exact hF _ h
  · exact h

theorem Out.Post.after {o : Out α} {P : α → RState → Prop} {s0 s : RState} (h : o.Post P (Eff s))
    (e : Eff s0 s) : o.Post P (Eff s0) :=
  h.imp (fun _ _ h => h) fun _ => e.trans

theorem Out.Post.ne_panic {o : Out α} {P : α → RState → Prop} {F : RState → Prop} (h : o.Post P F) :
    o ≠ .panic := by
  intro e; rw [e] at h; exact h

theorem Out.Post.of_ok {o : Out α} {P : α → RState → Prop} {F : RState → Prop} {a : α} {s : RState}
    (h : o.Post P F) (e : o = .ok a s) : P a s := by
  rw [e] at h; exact h

theorem Out.Post.of_fail {o : Out α} {P : α → RState → Prop} {F : RState → Prop} {e : RErr} {s : RState}
    (h : o.Post P F) (he : o = .fail e s) : F s := by
  rw [he] at h; exact h

/-! ### the stages of `advanceFrame` -/

theorem readN_post (n : Nat) (s : RState) :
    (readN n s).Post (fun p s' => n ≤ s.input.length ∧ p = s.input.take n ∧ s' = { s with input := s.input.drop n })
      (Eff s) := by
  rw [readN_eq]; split
  · exact ⟨‹_›, rfl, rfl⟩
  · exact ⟨rfl, rfl, rfl, rfl, Nat.zero_le _⟩

theorem sendCtl_open (op : Nat) (p : Bytes) (s : RState) (h : s.closeSent = false) :
    sendCtl op p s = { s with replies := s.replies ++ [(op, p)], closeSent := op == CloseMessage } := by
  simp [sendCtl, h]

theorem sendCtl_replies (op : Nat) (p : Bytes) (s : RState) (h : s.closeSent = false) :
    (sendCtl op p s).replies = s.replies ++ [(op, p)] := by
  rw [sendCtl_open op p s h]

theorem sendCtl_eff {s0 s : RState} (op : Nat) (p : Bytes) (h : Eff s0 s) : Eff s0 (sendCtl op p s) := by
  unfold sendCtl; split
  · exact h
  · exact h.trans ⟨rfl, rfl, rfl, rfl, Nat.le_refl _⟩

theorem sendCtl_keeps (op : Nat) (p : Bytes) (s : RState) :
    (sendCtl op p s).readLength = s.readLength ∧ (sendCtl op p s).readFinal = s.readFinal ∧
    (sendCtl op p s).readRemaining = s.readRemaining := by
  unfold sendCtl; split <;> exact ⟨rfl, rfl, rfl⟩

theorem protoErr_post {P : α → RState → Prop} (s : RState) : (protoErr s : Out α).Post P (Eff s) :=
  sendCtl_eff _ _ (.refl s)

theorem skipPrev_post (s : RState) :
    (skipPrev s).Post (fun _ s' => Eff s s' ∧ s'.readLength = s.readLength ∧ s'.readFinal = s.readFinal) (Eff s) := by
  unfold skipPrev; split
  · rw [skipN_eq]; split
    · exact ⟨⟨rfl, rfl, rfl, rfl, by simp⟩, rfl, rfl⟩
    · exact ⟨rfl, rfl, rfl, rfl, Nat.zero_le _⟩
  · exact ⟨.refl s, rfl, rfl⟩

theorem readHdr_post (s : RState) :
    (readHdr s).Post (fun h s' => Eff s s' ∧ s'.readLength = s.readLength ∧ s'.readFinal = s.readFinal ∧
        s'.input.length + 2 ≤ s.input.length ∧ s'.readRemaining = wrap64 h.len7 ∧ h.len7 < 128) (Eff s) := by
  unfold readHdr
  refine (readN_post 2 s).andThen fun p s1 ⟨hn, hp, h1⟩ => ?_
  subst h1
  have hl : p.length = 2 := by rw [hp, List.length_take]; omega
  match p, hl with
  | [b0, b1], _ => exact ⟨⟨rfl, rfl, rfl, rfl, by simp⟩, rfl, rfl, by simp; omega, rfl, decodeHdr_len7 _ _⟩

/-- What `checkHdr` rejects, as a function of the header and the two state bits it looks at. -/
def hdrBad (decompress readFinal : Bool) (h : Hdr) : Bool :=
  (h.rsv1 && !(decompress && h.rsv1 && isData h.frameType)) || h.rsv23
  || (if isControl h.frameType then (decide (h.len7 > maxControlFramePayloadSize) || !h.final)
      else if isData h.frameType then !readFinal
      else if h.frameType == continuationFrame then readFinal
      else true)

theorem not_data_of_isControl {t : Nat} (h : isControl t = true) : (t == continuationFrame || isData t) = false := by
  simp only [isControl, isData, continuationFrame, TextMessage, BinaryMessage, CloseMessage, PingMessage, PongMessage,
    Bool.or_eq_true, beq_iff_eq, Bool.or_eq_false_iff, beq_eq_false_iff_ne] at h ⊢
  omega

theorem hdrBad_false {d rf : Bool} {h : Hdr} (hb : hdrBad d rf h = false) :
    isControl h.frameType = true ∨
    isControl h.frameType = false ∧ (isData h.frameType = true ∧ rf = true ∨ h.frameType = 0 ∧ rf = false) := by
  simp only [hdrBad, Bool.or_eq_false_iff] at hb
  have hb := hb.2
  cases hc : isControl h.frameType
  · refine .inr ⟨rfl, ?_⟩
    rw [hc, if_neg Bool.false_ne_true] at hb
    split at hb
    · rename_i hd; exact .inl ⟨hd, by simpa using hb⟩
    · split at hb
      · rename_i h0; exact .inr ⟨by simpa [continuationFrame] using h0, hb⟩
      · cases hb
  · exact .inl rfl

/-- RSV1 gets past `checkHdr` only as the per-message-compressed bit, so the flag that records it is RSV1 itself. -/
theorem hdrBad_false_pmc {d rf : Bool} {h : Hdr} (hb : hdrBad d rf h = false) :
    (d && h.rsv1 && isData h.frameType) = (h.rsv1 && isData h.frameType) := by
  have k : ∀ d r t : Bool, (r && !(d && r && t)) = false → (d && r && t) = (r && t) := by decide
  simp only [hdrBad, Bool.or_eq_false_iff] at hb
  obtain ⟨⟨h1, _⟩, _⟩ := hb
  exact k _ _ _ h1

theorem checkHdr_eq (h : Hdr) (s : RState) :
    checkHdr h s =
      if hdrBad s.decompress s.readFinal h then
        protoErr { s with readDecompress := s.decompress && h.rsv1 && isData h.frameType }
      else .ok () { s with readDecompress := s.decompress && h.rsv1 && isData h.frameType,
                           readFinal := if isControl h.frameType then s.readFinal else h.final } := by
  simp only [checkHdr, hdrBad]
  by_cases h1 : ((h.rsv1 && !(s.decompress && h.rsv1 && isData h.frameType)) || h.rsv23) = true
  · simp only [h1, if_true, Bool.true_or]
  · simp only [h1, Bool.false_eq_true, if_false, Bool.false_or]
    by_cases hc : isControl h.frameType = true
    · simp only [hc, if_true]
      by_cases hl : h.len7 > maxControlFramePayloadSize
      · simp [hl]
      · cases hf : h.final <;> simp [hl]
    · simp only [hc, Bool.false_eq_true, if_false]
      by_cases hd : isData h.frameType = true
      · simp only [hd, if_true]
      · simp only [hd, Bool.false_eq_true, if_false]
        by_cases h0 : (h.frameType == continuationFrame) = true
        · simp only [h0, if_true]
        · simp [h0]

theorem checkHdr_post (h : Hdr) (s : RState) :
    (checkHdr h s).Post (fun _ s' => Eff s s' ∧ s'.readLength = s.readLength ∧ s'.readRemaining = s.readRemaining ∧
        (isControl h.frameType = true ∧ s'.readFinal = s.readFinal ∨
         isControl h.frameType = false ∧ s'.readFinal = h.final ∧
           (isData h.frameType = true ∧ s.readFinal = true ∨ h.frameType = 0 ∧ s.readFinal = false))) (Eff s) := by
  rw [checkHdr_eq]; split
  · exact (protoErr_post _).after ⟨rfl, rfl, rfl, rfl, Nat.le_refl _⟩
  · refine ⟨⟨rfl, rfl, rfl, rfl, Nat.le_refl _⟩, rfl, rfl, ?_⟩
    rcases hdrBad_false (Bool.eq_false_iff.mpr ‹_›) with hc | ⟨hc, hk⟩
    · exact .inl ⟨hc, if_pos hc⟩
    · exact .inr ⟨hc, if_neg (by rw [hc]; exact Bool.false_ne_true), hk⟩

theorem readLength_post (h : Hdr) (s : RState) (hr : s.readRemaining = wrap64 h.len7) (h7 : h.len7 < 128) :
    (readLength h s).Post (fun _ s' => Eff s s' ∧ s'.readLength = s.readLength ∧ s'.readFinal = s.readFinal ∧
        0 ≤ s'.readRemaining ∧ s'.readRemaining < 2 ^ 63) (Eff s) := by
  simp only [readLength]
  split
  · refine (readN_post 2 s).andThen fun p s1 ⟨hn, hp, h1⟩ => ?_
    subst h1 hp
    have : ofBE (s.input.take 2) < 256 ^ 2 := by
      have := ofBE_lt (s.input.take 2); rwa [List.length_take, Nat.min_eq_left hn] at this
    refine ⟨⟨rfl, rfl, rfl, rfl, by simp⟩, rfl, rfl, ?_, wrap64_lt _⟩
    show 0 ≤ wrap64 _
    rw [wrap64_nat_nonneg (by omega)]; omega
  · split
    · apply (readN_post 8 s).andThen
      intro p s1 ⟨hn, hp, h1⟩
      have e1 : ∀ w, Eff s { s1 with readRemaining := w } := fun _ => h1 ▸ ⟨rfl, rfl, rfl, rfl, by simp⟩
      have hw := wrap64_lt (ofBE p)
      -- Trap: while `wrap64 (ofBE p) < 0` is visible, `split`, `by_cases`, even unification evaluate the
      -- instance of the `if` (`Int.pow 2 63` by unary recursion) and run out of recursion depth.
      generalize wrap64 (ofBE p) = w at hw ⊢
      split
      · exact (protoErr_post _).after (e1 w)
      · exact ⟨e1 w, h1 ▸ rfl, h1 ▸ rfl, Int.not_lt.mp ‹_›, hw⟩
    · exact ⟨.refl s, rfl, rfl, by rw [hr, wrap64_nat_nonneg (by omega)]; omega, hr ▸ wrap64_lt _⟩

theorem readMask_post (h : Hdr) (s : RState) :
    (readMask h s).Post (fun _ s' => Eff s s' ∧ s'.readLength = s.readLength ∧ s'.readRemaining = s.readRemaining ∧
        s'.readFinal = s.readFinal) (Eff s) := by
  unfold readMask
  split
  · exact protoErr_post s
  · split
    · refine (readN_post 4 s).andThen fun k s1 ⟨_, _, h1⟩ => ?_
      subst h1
      exact ⟨⟨rfl, rfl, rfl, rfl, by simp⟩, rfl, rfl, rfl⟩
    · exact ⟨.refl s, rfl, rfl, rfl⟩

/-- Step 5 lets a frame through only if the `int64` sum is non-negative and within a configured limit; when
`readLength` was a non-negative count, a non-negative sum did not wrap. -/
theorem dataFrame_post (h : Hdr) (s : RState) (r0 : 0 ≤ s.readRemaining) (r1 : s.readRemaining < 2 ^ 63) :
    (dataFrame h s).Post (fun ft s' => ft = h.frameType ∧ Eff s s' ∧ s'.readRemaining = s.readRemaining ∧
        (0 ≤ s.readLength → s.readLength < 2 ^ 63 →
          s'.readLength = s.readLength + s.readRemaining ∧ s'.readLength < 2 ^ 63) ∧
        (0 < s.readLimit → s'.readLength ≤ s.readLimit)) (Eff s) := by
  simp only [dataFrame]
  split
  · exact sendCtl_eff _ _ ⟨rfl, rfl, rfl, rfl, Nat.le_refl _⟩
  · rename_i hc
    simp only [Bool.or_eq_true, Bool.and_eq_true, decide_eq_true_eq, not_or, not_and, Int.not_lt] at hc
    exact ⟨rfl, ⟨rfl, rfl, rfl, rfl, Nat.le_refl _⟩, rfl,
      fun a b => ⟨wrap64_add_nonneg a b r0 r1 hc.1, wrap64_lt _⟩, fun hl => by simpa using hc.2 hl⟩

/-- What step 7 rejects in the body of a Close frame. -/
def closeBad (p : Bytes) : Bool :=
  p.length == 1 || (decide (2 ≤ p.length) && (!isValidReceivedCloseCode (ofBE (p.take 2)) || !utf8Valid (p.drop 2)))

theorem handleCloseFrame_eq (p : Bytes) (s : RState) :
    handleCloseFrame p s =
      if closeBad p then protoErr s
      else if p.length < 2 then .fail (.close 1005 []) (sendCtl CloseMessage [] s)
      else .fail (.close (ofBE (p.take 2)) (p.drop 2)) (sendCtl CloseMessage (p.take 2) s) := by
  unfold handleCloseFrame closeBad
  by_cases h1 : p.length = 1
  · simp [h1]
  · by_cases h2 : 2 ≤ p.length
    · have hbe : be 2 (ofBE (p.take 2)) = p.take 2 := be_ofBE' (by rw [List.length_take]; omega)
      cases hc : isValidReceivedCloseCode (ofBE (p.take 2)) <;> cases hu : utf8Valid (p.drop 2) <;>
        simp [h1, h2, hc, hu, Nat.not_lt.mpr h2, hbe]
    · simp [h1, h2, Nat.lt_of_not_le h2]; rfl

theorem handleCloseFrame_post (p : Bytes) (s : RState) :
    (handleCloseFrame p s).Post (fun _ _ => False) (Eff s) := by
  rw [handleCloseFrame_eq]
  split
  · exact protoErr_post s
  · split <;> exact sendCtl_eff _ _ (.refl s)

theorem readCtlPayload_post (s : RState) (h0 : 0 ≤ s.readRemaining) :
    (readCtlPayload s).Post (fun _ s' => Eff s s' ∧ s'.readLength = s.readLength ∧ s'.readFinal = s.readFinal ∧
        s'.readRemaining = 0) (Eff s) := by
  unfold readCtlPayload
  split
  · apply ((readN_post _ { s with readRemaining := 0 }).after (s0 := s) ⟨rfl, rfl, rfl, rfl, Nat.le_refl _⟩).andThen
    intro q s1 ⟨_, _, h1⟩
    subst h1
    exact ⟨⟨rfl, rfl, rfl, rfl, by simp⟩, rfl, rfl, rfl⟩
  · exact ⟨.refl s, rfl, rfl, by omega⟩

theorem controlFrame_post (h : Hdr) (s : RState) (h0 : 0 ≤ s.readRemaining) :
    (controlFrame h s).Post (fun ft s' => Eff s s' ∧ s'.readLength = s.readLength ∧ s'.readFinal = s.readFinal ∧
        s'.readRemaining = 0 ∧ ft = h.frameType ∧ (ft = PingMessage ∨ ft = PongMessage)) (Eff s) := by
  unfold controlFrame
  refine (readCtlPayload_post s h0).andThen fun p s1 ⟨e1, l1, f1, r1⟩ => ?_
  split
  · rename_i hp
    exact ⟨e1, l1, f1, r1, rfl, .inr (by simpa using hp)⟩
  · split
    · rename_i hp
      obtain ⟨l2, f2, r2⟩ := sendCtl_keeps PongMessage p s1
      exact ⟨sendCtl_eff _ _ e1, l2.trans l1, f2.trans f1, r2.trans r1, rfl, .inl (by simpa using hp)⟩
    · exact (handleCloseFrame_post p s1).imp (fun _ _ h => h.elim) fun _ => e1.trans

/-- `readLength` grows by exactly what is left to read of the returned frame, provided it was a non-negative `int64`
count before: step 5 refuses a sum that wrapped or exceeds the limit, a control frame changes nothing and leaves
nothing to read. -/
theorem advanceFrame_post (s : RState) :
    (advanceFrame s).Post (fun ft s' =>
      Eff s s' ∧ s'.input.length + 2 ≤ s.input.length ∧ 0 ≤ s'.readRemaining ∧
      (0 ≤ s.readLength → s.readLength < 2 ^ 63 →
        s'.readLength = s.readLength + s'.readRemaining ∧ s'.readLength < 2 ^ 63) ∧
      (0 < s.readLimit → s.readLength ≤ s.readLimit → s'.readLength ≤ s.readLimit) ∧
      ((ft = 0 ∧ s.readFinal = false ∨ (ft = TextMessage ∨ ft = BinaryMessage) ∧ s.readFinal = true) ∨
       (ft = PingMessage ∨ ft = PongMessage) ∧ s'.readRemaining = 0 ∧ s'.readFinal = s.readFinal)) (Eff s) := by
  unfold advanceFrame
  refine (skipPrev_post s).bind fun _ s1 ⟨e1, l1, f1⟩ => ?_
  refine ((readHdr_post s1).after e1).bind fun h s2 ⟨e2, l2, f2, n2, r2, h7⟩ => ?_
  have e12 := e1.trans e2
  refine ((checkHdr_post h s2).after e12).bind fun _ s3 ⟨e3, l3, r3, c3⟩ => ?_
  have e13 := e12.trans e3
  refine ((readLength_post h s3 (r3.trans r2) h7).after e13).bind fun _ s4 ⟨e4, l4, f4, r4, r4'⟩ => ?_
  have e14 := e13.trans e4
  refine ((readMask_post h s4).after e14).bind fun _ s5 ⟨e5, l5, r5, f5⟩ => ?_
  have e15 := e14.trans e5
  have len5 : s5.input.length + 2 ≤ s.input.length := by
    have := e1.len; have := e3.len; have := e4.len; have := e5.len; omega
  have hl5 : s5.readLength = s.readLength := by rw [l5, l4, l3, l2, l1]
  have hf2 : s2.readFinal = s.readFinal := f2.trans f1
  rw [← r5] at r4 r4'
  split
  · rename_i hdata
    refine ((dataFrame_post h s5 r4 r4').imp (fun ft s' ⟨hft, e6, r6, hsum, hlim⟩ => ?_) fun _ => e15.trans)
    refine ⟨e15.trans e6, by have := e6.len; omega, r6 ▸ r4, fun a b => by rw [r6, ← hl5]; exact hsum (hl5 ▸ a) (hl5 ▸ b),
      fun hL _ => by rw [← e15.readLimit]; exact hlim (e15.readLimit ▸ hL), .inl ?_⟩
    subst hft
    rcases c3 with ⟨hc, _⟩ | ⟨_, _, ⟨hd, hrf⟩ | ⟨h0', hrf⟩⟩
    · rw [not_data_of_isControl hc] at hdata; cases hdata
    · exact .inr ⟨by simpa [isData] using hd, hf2 ▸ hrf⟩
    · exact .inl ⟨h0', hf2 ▸ hrf⟩
  · refine ((controlFrame_post h s5 r4).imp (fun ft s' ⟨e6, l6, f6, r6, hft, hpp⟩ => ?_) fun _ => e15.trans)
    have hl6 : s'.readLength = s.readLength := l6.trans hl5
    refine ⟨e15.trans e6, by have := e6.len; omega, by rw [r6]; decide,
      fun _ b => ⟨by rw [hl6, r6, Int.add_zero], hl6 ▸ b⟩, fun _ hle => hl6 ▸ hle, .inr ⟨hpp, r6, ?_⟩⟩
    rcases c3 with ⟨_, hrf⟩ | ⟨hc, _⟩
    · rw [f6, f5, f4, hrf, hf2]
    · subst hft
      rcases hpp with hp | hp <;> simp [hp, isControl] at hc

theorem advanceFrame_ne_panic (s : RState) : advanceFrame s ≠ .panic := (advanceFrame_post s).ne_panic

theorem advanceFrame_fail_len {s s' : RState} {e : RErr} (h : advanceFrame s = .fail e s') :
    s'.input.length ≤ s.input.length :=
  ((advanceFrame_post s).of_fail h).len

theorem advanceFrame_empty (s : RState) (hr : s.readRemaining = 0) (hin : s.input = []) :
    advanceFrame s = .fail .ueof { s with input := [] } := by
  unfold advanceFrame
  rw [bind_of_ok (skipPrev_noop s (Int.le_of_eq hr)), bind_of_fail (readHdr_short s (by rw [hin]; decide))]

/-! ### the top bit of a 64-bit length (F14) -/

theorem advanceFrame_top_bit (s : RState) (b0 b1 : UInt8) (ext rest : Bytes)
    (hrem : s.readRemaining ≤ 0) (hin : s.input = b0 :: b1 :: (ext ++ rest))
    (h7 : (decodeHdr b0 b1).len7 = 127) (hext : ext.length = 8) (htop : 2 ^ 63 ≤ ofBE ext) :
    ∀ ft s', advanceFrame s ≠ .ok ft s' := by
  intro ft s' h
  refine Out.Post.of_ok (P := fun _ _ => False) (F := fun _ => True) ?_ h
  unfold advanceFrame
  rw [bind_of_ok (skipPrev_noop s hrem), bind_of_ok (readHdr_ok s b0 b1 _ hin)]
  refine Out.Post.bind (P := fun _ s3 => s3.input = ext ++ rest) ?_ fun _ s3 h3 => ?_
  · rw [checkHdr_eq]; split
    · trivial
    · rfl
  · rw [bind_of_fail ((readLength_64 _ _ h7 h3 hext).trans (if_pos htop))]; trivial

/-! ### the loops -/

theorem nextReaderLoop_err (fuel : Nat) (s : RState) (e : RErr) (h : s.readErr = some e) :
    nextReaderLoop (fuel + 1) s = .fail e s := by
  simp only [nextReaderLoop, h]

theorem nextReaderLoop_step (fuel : Nat) (s : RState) (h : s.readErr = none) :
    nextReaderLoop (fuel + 1) s =
      match advanceFrame s with
      | .panic => .panic
      | .fail e s' => .fail e { s' with readErr := some e }
      | .ok ft s' => if ft == TextMessage || ft == BinaryMessage then .ok ft s' else nextReaderLoop fuel s' := by
  simp only [nextReaderLoop, h]
  cases advanceFrame s <;> rfl

theorem readMessage_sticky (s : RState) (e : RErr) (h : s.readErr = some e) :
    readMessage s = .fail e { s with readLength := 0 } := by
  have : nextReader s = .fail e { s with readLength := 0 } := nextReaderLoop_err _ _ e h
  simp [readMessage, this]

/-- Read-limit accounting of the message being read: the bytes handed out so far (`acc`) plus those still
announced never exceed `readLength`, which never wrapped and respects a configured limit. -/
structure Acct (acc : Bytes) (s : RState) : Prop where
  rem_nonneg : 0 ≤ s.readRemaining
  sum_le : (acc.length : Int) + s.readRemaining ≤ s.readLength
  lt : s.readLength < 2 ^ 63
  limit : 0 < s.readLimit → s.readLength ≤ s.readLimit

theorem Acct.le_limit {acc : Bytes} {s : RState} (h : Acct acc s) (hL : 0 < s.readLimit) :
    (acc.length : Int) ≤ s.readLimit := by
  have := h.limit hL; have := h.rem_nonneg; have := h.sum_le; omega

/-- `NextReader`'s loop: the fuel suffices, and a returned message start leaves the accounting set up — exactly
(`readRemaining = readLength`) when no message was in progress, since then no continuation frame was skipped. -/
theorem nextReaderLoop_post (fuel : Nat) (s : RState) (hf : s.input.length < fuel)
    (h0 : 0 ≤ s.readLength) (h1 : s.readLength < 2 ^ 63) (hL : 0 < s.readLimit → s.readLength ≤ s.readLimit) :
    (nextReaderLoop fuel s).Post (fun _ s' =>
      s'.readLimit = s.readLimit ∧ s'.input.length + 2 ≤ s.input.length ∧ Acct [] s' ∧
      (s.readFinal = true → s.readLength = 0 → s'.readRemaining = s'.readLength)) (fun _ => True) := by
  induction fuel generalizing s with
  | zero => omega
  | succ n ih =>
    cases hnone : s.readErr with
    | some e => rw [nextReaderLoop_err n s e hnone]; trivial
    | none =>
    rw [nextReaderLoop_step n s hnone]
    split
    · rename_i e; exact (advanceFrame_ne_panic s e).elim
    · trivial
    · rename_i ft s1 hok
      obtain ⟨eff, hlen, r0, hsum, hlim, hkind⟩ := (advanceFrame_post s).of_ok hok
      obtain ⟨hrl, hlt⟩ := hsum h0 h1
      have hL1 : 0 < s1.readLimit → s1.readLength ≤ s1.readLimit := fun h => by
        rw [eff.readLimit] at h ⊢; exact hlim h (hL h)
      split
      · exact ⟨eff.readLimit, hlen, ⟨r0, by simp; omega, hlt, hL1⟩, fun _ hl0 => by omega⟩
      · rename_i hnty
        refine (ih s1 (by omega) (by omega) hlt hL1).imp ?_ fun _ _ => trivial
        intro _ s' ⟨a, c, d, e⟩
        refine ⟨a.trans eff.readLimit, by omega, d, fun hf0 hl0 => ?_⟩
        -- with no message in progress, a frame that does not end the loop is a ping or a pong
        rcases hkind with (⟨_, hff⟩ | ⟨h12, _⟩) | ⟨_, hr, hrf⟩
        · rw [hf0] at hff; cases hff
        · exact absurd (by simpa using h12) hnty
        · exact e (hrf.trans hf0) (by omega)

theorem nextReader_post (s : RState) :
    (nextReader s).Post (fun _ s' =>
      s'.readLimit = s.readLimit ∧ s'.input.length + 2 ≤ s.input.length ∧ Acct [] s' ∧
      (s.readFinal = true → s'.readRemaining = s'.readLength)) (fun _ => True) :=
  (nextReaderLoop_post _ { s with readLength := 0 } (Nat.lt_succ_self _) (Int.le_refl 0)
    (by show (0 : Int) < 2 ^ 63; decide) Int.le_of_lt).imp (fun _ _ ⟨a, c, d, e⟩ => ⟨a, c, d, fun h => e h rfl⟩)
    fun _ h => h

theorem readAllLoop_err (fuel : Nat) (acc : Bytes) (s : RState) (e : RErr) (h : s.readErr = some e) :
    readAllLoop (fuel + 1) acc s = .ok (acc, some (if e = .eof then .ueof else e)) s := by
  simp [readAllLoop, h]

theorem readAllLoop_chunk (fuel : Nat) (acc : Bytes) (s : RState) (he : s.readErr = none) (hr : 0 < s.readRemaining)
    {k : Nat} (hk : (s.input.take s.readRemaining.toNat).length = k) (hk0 : k ≠ 0) :
    readAllLoop (fuel + 1) acc s =
      readAllLoop fuel (acc ++ if s.isServer then maskBytes s.maskKey s.maskPos (s.input.take k) else s.input.take k)
        { s with input := s.input.drop k, readRemaining := s.readRemaining - k, maskPos := (s.maskPos + k) % 4 } := by
  have hne : (k == 0) = false := by simpa using hk0
  simp only [readAllLoop, he, hr, if_true, hk, hne, Bool.false_eq_true, if_false]

theorem readAllLoop_starved (fuel : Nat) (acc : Bytes) (s : RState) (he : s.readErr = none) (hr : 0 < s.readRemaining)
    (hk : (s.input.take s.readRemaining.toNat).length = 0) :
    readAllLoop (fuel + 1) acc s = .ok (acc, some .ueof) { s with readErr := some .ueof } := by
  simp only [readAllLoop, he, hr, if_true, hk, beq_self_eq_true]

theorem readAllLoop_done (fuel : Nat) (acc : Bytes) (s : RState) (he : s.readErr = none)
    (hr : s.readRemaining ≤ 0) (hf : s.readFinal = true) : readAllLoop (fuel + 1) acc s = .ok (acc, none) s := by
  simp only [readAllLoop, he, Int.not_lt.mpr hr, if_false, hf, if_true]

theorem readAllLoop_frame (fuel : Nat) (acc : Bytes) (s : RState) (he : s.readErr = none)
    (hr : s.readRemaining ≤ 0) (hf : s.readFinal = false) :
    readAllLoop (fuel + 1) acc s =
      match advanceFrame s with
      | .panic => .panic
      | .fail e s' => readAllLoop fuel acc { s' with readErr := some e }
      | .ok ft s' =>
        if ft == TextMessage || ft == BinaryMessage then readAllLoop fuel acc { s' with readErr := some .internal }
        else readAllLoop fuel acc s' := by
  simp only [readAllLoop, he, Int.not_lt.mpr hr, if_false, hf, Bool.false_eq_true]
  cases advanceFrame s <;> rfl

theorem readAllLoop_post (fuel : Nat) (acc : Bytes) (s : RState) (hf : 2 * s.input.length + 2 ≤ fuel)
    (hinv : Acct acc s) :
    (readAllLoop fuel acc s).Post (fun r s' =>
        s'.input.length ≤ s.input.length ∧ s'.readLimit = s.readLimit ∧
        (0 < s.readLimit → (r.1.length : Int) ≤ s.readLimit) ∧
        (r.2 = none → s'.readErr = none ∧ s'.readFinal = true ∧ s'.readRemaining = 0 ∧
          ((acc.length : Int) + s.readRemaining = s.readLength → (r.1.length : Int) = s'.readLength)))
      (fun _ => False) := by
  induction fuel generalizing s acc with
  | zero => omega
  | succ n ih =>
    have ⟨h0, hsum, hlt, hlim⟩ := hinv
    cases he : s.readErr with
    | some e => rw [readAllLoop_err n acc s e he]; exact ⟨Nat.le_refl _, rfl, hinv.le_limit, nofun⟩
    | none =>
    by_cases hr : 0 < s.readRemaining
    · generalize hk : (s.input.take s.readRemaining.toNat).length = k
      have hkb : (k : Int) ≤ s.readRemaining ∧ k ≤ s.input.length := by rw [List.length_take] at hk; omega
      by_cases hk0 : k = 0
      · rw [readAllLoop_starved n acc s he hr (hk.trans hk0)]
        exact ⟨Nat.le_refl _, rfl, hinv.le_limit, nofun⟩
      · rw [readAllLoop_chunk n acc s he hr hk hk0]
        generalize hd : (if s.isServer = true then maskBytes s.maskKey s.maskPos (s.input.take k) else s.input.take k) = data
        have hdl : ((acc ++ data).length : Int) = acc.length + k := by
          subst hd; split <;> simp [maskBytes_length, hkb.2]
        have hdrop : (s.input.drop k).length + k = s.input.length := by rw [List.length_drop]; omega
        refine Out.Post.imp (ih _ _ ?_ ⟨?_, ?_, hlt, hlim⟩) ?_ fun _ h => h
        · show 2 * (s.input.drop k).length + 2 ≤ n; omega
        · show 0 ≤ s.readRemaining - k; omega
        · show _ + (s.readRemaining - k) ≤ s.readLength; omega
        · intro r s' ⟨a, b, c, d⟩
          refine ⟨by have : _ ≤ (s.input.drop k).length := a; omega, b, c, fun hn => ?_⟩
          obtain ⟨d1, d2, d3, d4⟩ := d hn
          exact ⟨d1, d2, d3, fun ht => d4 (by show _ + (s.readRemaining - k) = s.readLength; omega)⟩
    · have hr0 : s.readRemaining = 0 := Int.le_antisymm (Int.not_lt.mp hr) h0
      by_cases hfin : s.readFinal = true
      · rw [readAllLoop_done n acc s he (Int.not_lt.mp hr) hfin]
        exact ⟨Nat.le_refl _, rfl, hinv.le_limit, fun _ => ⟨he, hfin, hr0, fun ht => by show (acc.length : Int) = _; omega⟩⟩
      · obtain ⟨m, rfl⟩ : ∃ m, n = m + 1 := ⟨n - 1, by omega⟩
        rw [readAllLoop_frame (m + 1) acc s he (Int.not_lt.mp hr) (by simpa using hfin)]
        split
        · rename_i e; exact (advanceFrame_ne_panic s e).elim
        · rename_i e s1 hfail
          have eff := (advanceFrame_post s).of_fail hfail
          rw [readAllLoop_err m acc _ e rfl]
          exact ⟨eff.len, eff.readLimit, hinv.le_limit, nofun⟩
        · rename_i ft s1 hok
          obtain ⟨eff, hlen, r0, hsum1, hlim1, _⟩ := (advanceFrame_post s).of_ok hok
          obtain ⟨hrl, hlt1⟩ := hsum1 (by omega) hlt
          split
          · rw [readAllLoop_err m acc _ .internal rfl]
            exact ⟨eff.len, eff.readLimit, hinv.le_limit, nofun⟩
          · refine (ih acc s1 (by omega) ⟨r0, by omega, hlt1, fun h => ?_⟩).imp ?_ fun _ h => h
            · rw [eff.readLimit] at h ⊢; exact hlim1 h (hlim h)
            · intro r s' ⟨a, b, c, d⟩
              refine ⟨by omega, b.trans eff.readLimit, eff.readLimit ▸ c, fun hn => ?_⟩
              obtain ⟨d1, d2, d3, d4⟩ := d hn
              exact ⟨d1, d2, d3, fun ht => d4 (by omega)⟩

/-- `ReadMessage` from any state on any byte stream: no panic; input is consumed; the read limit holds for the
delivered as for the partial data (**read limit**); and a message is delivered (`none`) only when every byte
announced by every frame up to a final one has been read (**complete delivery**). -/
theorem readMessage_post (s : RState) :
    (readMessage s).Post (fun r s' =>
        s'.input.length + 2 ≤ s.input.length ∧ s'.readLimit = s.readLimit ∧
        (0 < s.readLimit → (r.1.data.length : Int) ≤ s.readLimit) ∧
        (r.2 = none → s'.readErr = none ∧ s'.readFinal = true ∧ s'.readRemaining = 0 ∧
          (s.readFinal = true → (r.1.data.length : Int) = s'.readLength)))
      (fun _ => True) := by
  unfold readMessage
  have hN := nextReader_post s
  split
  · rename_i e; exact (hN.ne_panic e).elim
  · trivial
  · rename_i ty s1 hnr
    obtain ⟨n1, n3, n4, n5⟩ := hN.of_ok hnr
    have hA := readAllLoop_post (2 * s1.input.length + 4) [] s1 (by omega) n4
    split
    · rename_i e; exact (hA.ne_panic e).elim
    · rename_i e; exact (hA.of_fail e).elim
    · rename_i data e s' hra
      obtain ⟨a1, a2, a3, a4⟩ := hA.of_ok hra
      refine ⟨Nat.le_trans (Nat.add_le_add_right a1 2) n3, a2.trans n1, n1 ▸ a3, fun he => ?_⟩
      obtain ⟨d1, d2, d3, d4⟩ := a4 he
      exact ⟨d1, d2, d3, fun hrf => d4 (by rw [n5 hrf]; simp)⟩

theorem sessionLoop_post (fuel : Nat) (s : RState) (acc : List Msg) (hf : s.input.length + 2 ≤ fuel) :
    ∃ t, sessionLoop fuel s acc = some t ∧
      (0 < s.readLimit → (∀ m ∈ acc, (m.data.length : Int) ≤ s.readLimit) →
        (∀ m ∈ t.msgs, (m.data.length : Int) ≤ s.readLimit) ∧ (t.partialLen : Int) ≤ s.readLimit) := by
  induction fuel generalizing s acc with
  | zero => omega
  | succ n ih =>
    have hp := readMessage_post s
    simp only [sessionLoop]
    split
    · rename_i m s1 hrm
      obtain ⟨p1, p2, p3, _⟩ := hp.of_ok hrm
      obtain ⟨t, ht, hl⟩ := ih s1 (acc ++ [m]) (by omega)
      refine ⟨t, ht, fun hL hacc => ?_⟩
      rw [p2] at hl
      refine hl hL fun x hx => ?_
      rcases List.mem_append.mp hx with hx | hx
      · exact hacc x hx
      · rw [List.mem_singleton.mp hx]; exact p3 hL
    · rename_i m e s1 hrm
      obtain ⟨_, _, hlim, _⟩ := hp.of_ok hrm
      exact ⟨_, rfl, fun hL hacc => ⟨hacc, hlim hL⟩⟩
    · exact ⟨_, rfl, fun hL hacc => ⟨hacc, Int.le_of_lt hL⟩⟩
    · rename_i e; exact (hp.ne_panic e).elim

theorem session_total (s : RState) : ∃ t, session s = some t :=
  (sessionLoop_post _ s [] (Nat.le_refl _)).imp fun _ h => h.1

end Oryx.WsRead
