/-
  C15, the concurrency model `Oryx.WsConc` with the four structural facts true: the wire invariant `Inv` holds in every
  reachable state (`Inv.update`: a step rewrites one thread's record while the others are idle; `step_inv`,
  `reach_inv`); once the latch is set nothing on the wire changes any more (`Frozen`, `frozen_reach`). The gate of C15
  enters through `genFacts_allTrue_of`: the four generated facts give `Facts.allTrue`. Separately, the acceptance test
  the driver applies to observed wires is sound (`accepts_sound`).
-/
import Oryx.Model.WsConc
namespace Oryx.WsConc
open Oryx

@[simp] theorem upd_same (f : Nat → Thread) (t : Nat) (th : Thread) : upd f t th t = th := by simp [upd]
theorem upd_other (f : Nat → Thread) (t i : Nat) (th : Thread) (h : i ≠ t) : upd f t th i = f i := by simp [upd, h]

structure Inv (s : Sys) : Prop where
  /-- only the holder of `mu` is inside a frame write -/
  holder : ∀ t, (s.threads t).pc ≠ .idle → s.mu = some t
  /-- the wire is the completed frames followed by the frame in progress -/
  wire : s.wire = (s.done.map (·.2)).flatten ++ s.cur
  /-- the frame in progress is what its writer has handed to the transport so far -/
  curWriting : ∀ t k j, (s.threads t).pc = .writing k → (s.threads t).job = some j → s.cur = (j.bufs.take k).flatten
  /-- nobody writing: no partial frame, unless a transport failure cut one -/
  curIdle : (∀ t k, (s.threads t).pc ≠ .writing k) → s.cur = [] ∨ s.latch = some .failed
  /-- once the latch is set nobody is (or gets) inside the transport writes -/
  frozen : s.latch ≠ none → ∀ t k, (s.threads t).pc ≠ .writing k
  /-- per-sender projection of the completed frames -/
  proj : ∀ t, (s.done.filter (fun p => p.1 == t)).map (·.2) = (s.threads t).okFrames
  /-- … which are frames of the sender's program, in program order -/
  order : ∀ t, List.Sublist (s.threads t).okFrames (((s.threads t).prog.take (s.threads t).pos).map Job.bytes)
  /-- a completed Close frame means the latch is set -/
  closeLatch : s.closeDone = true → s.latch ≠ none

theorem init_inv (s : Sys) (h : Init s) : Inv s := by
  obtain ⟨h1, h2, h3, h4, h5, h6, h7⟩ := h
  refine ⟨?_, ?_, ?_, ?_, ?_, ?_, ?_, ?_⟩
  · intro t ht; exact absurd (h7 t).1 ht
  · simp [h3, h4, h5]
  · intro t k j hk; rw [(h7 t).1] at hk; cases hk
  · intro _; exact Or.inl h5
  · intro hl; exact absurd h2 hl
  · intro t; simp [h4, (h7 t).2.2]
  · intro t; rw [(h7 t).2.2]; exact List.nil_sublist _
  · intro hc; rw [h6] at hc; cases hc

theorem others_idle {s : Sys} (inv : Inv s) {t : Nat} {pc : PC} (h : (s.threads t).pc = pc) (hpc : pc ≠ .idle) :
    ∀ i, i ≠ t → (s.threads i).pc = .idle := fun i hi =>
  Classical.byContradiction fun hn => hi (Option.some.inj ((inv.holder i hn).symm.trans (inv.holder t (h ▸ hpc))))

theorem idle_of_free {s : Sys} (inv : Inv s) (hmu : s.mu = none) (i : Nat) : (s.threads i).pc = .idle :=
  Classical.byContradiction fun hi => by cases hmu.symm.trans (inv.holder i hi)

theorem Inv.cur_of_not_writing {s : Sys} (inv : Inv s) {t : Nat} (hothers : ∀ i, i ≠ t → (s.threads i).pc = .idle)
    (ht : ∀ k, (s.threads t).pc ≠ .writing k) : s.cur = [] ∨ s.latch = some .failed := by
  refine inv.curIdle fun i k hk => ?_
  by_cases hit : i = t
  · exact ht k (hit ▸ hk)
  · rw [hothers i hit] at hk; cases hk

theorem latch_none_of_writing {s : Sys} (inv : Inv s) {t k : Nat} (h : (s.threads t).pc = .writing k) : s.latch = none :=
  Classical.byContradiction fun hl => inv.frozen hl t k h

theorem order_step {th : Thread} (h : List.Sublist th.okFrames ((th.prog.take th.pos).map Job.bytes)) :
    List.Sublist th.okFrames ((th.prog.take (th.pos + 1)).map Job.bytes) := by
  refine h.trans ?_
  apply List.Sublist.map
  rw [List.take_add_one]
  exact List.sublist_append_left _ _

/-- Every step but `timeout` and `closeTransport` rewrites the record of one thread `t` while all the others are idle
(`t` holds `mu`, or `mu` is free): the invariant then only has to be re-established for `t`. -/
theorem Inv.update {s : Sys} (inv : Inv s) {t : Nat} (hothers : ∀ i, i ≠ t → (s.threads i).pc = .idle)
    (th : Thread) {s' : Sys} (hthreads : s'.threads = upd s.threads t th)
    (holder : th.pc ≠ .idle → s'.mu = some t)
    (wire : s'.wire = (s'.done.map (·.2)).flatten ++ s'.cur)
    (cur : match th.pc with
      | .writing k => s'.latch = none ∧ ∀ j, th.job = some j → s'.cur = (j.bufs.take k).flatten
      | _ => s'.cur = [] ∨ s'.latch = some .failed)
    (proj : ∀ i, (s'.done.filter (fun p => p.1 == i)).map (·.2) = (if i = t then th else s.threads i).okFrames)
    (order : List.Sublist th.okFrames ((th.prog.take th.pos).map Job.bytes))
    (closeLatch : s'.closeDone = true → s'.latch ≠ none) : Inv s' := by
  have hpc : ∀ i, i ≠ t → (s'.threads i).pc = .idle := fun i hi => by rw [hthreads, upd_other _ _ _ _ hi]; exact hothers i hi
  have ht : s'.threads t = th := by rw [hthreads, upd_same]
  refine ⟨fun i hi => ?_, wire, fun i k j hk hj => ?_, fun h => ?_, fun hl i k hk => ?_,
    fun i => ?_, fun i => ?_, closeLatch⟩
  · by_cases hit : i = t
    · subst hit; exact holder (ht ▸ hi)
    · exact absurd (hpc i hit) hi
  · by_cases hit : i = t
    · subst hit; rw [ht] at hk hj; rw [hk] at cur; exact cur.2 j hj
    · rw [hpc i hit] at hk; cases hk
  · split at cur
    · rename_i k hk; exact absurd (ht ▸ hk) (h t k)
    · exact cur
  · by_cases hit : i = t
    · subst hit; rw [ht] at hk; rw [hk] at cur; exact hl cur.1
    · rw [hpc i hit] at hk; cases hk
  · rw [proj i, hthreads]; rfl
  · by_cases hit : i = t
    · subst hit; rw [ht]; exact order
    · rw [hthreads, upd_other _ _ _ _ hit]; exact inv.order i

theorem proj_same {s : Sys} (inv : Inv s) (t : Nat) (th : Thread) (h : th.okFrames = (s.threads t).okFrames) (i : Nat) :
    (s.done.filter (fun p => p.1 == i)).map (·.2) = (if i = t then th else s.threads i).okFrames := by
  rw [inv.proj i]; split
  · subst_vars; exact h.symm
  · rfl

theorem proj_done {s : Sys} (inv : Inv s) (t : Nat) (th : Thread) (b : Bytes)
    (h : th.okFrames = (s.threads t).okFrames ++ [b]) (i : Nat) :
    ((s.done ++ [(t, b)]).filter (fun p => p.1 == i)).map (·.2) = (if i = t then th else s.threads i).okFrames := by
  rw [List.filter_append, List.map_append, inv.proj i]
  by_cases hit : i = t
  · subst hit; simp [h]
  · have : (t == i) = false := by simpa using fun h => hit h.symm
    simp [hit, this]

theorem order_done {s : Sys} (inv : Inv s) {t : Nat} {j : Job} (hpc : (s.threads t).pc = .writing j.bufs.length)
    (hjob : (s.threads t).job = some j) :
    List.Sublist ((s.threads t).okFrames ++ [s.cur]) (((s.threads t).prog.take ((s.threads t).pos + 1)).map Job.bytes) := by
  rw [List.take_add_one, show (s.threads t).prog[(s.threads t).pos]? = some j from hjob, List.map_append,
    inv.curWriting t _ j hpc hjob, List.take_length]
  exact (inv.order t).append (List.Sublist.refl _)

theorem step_inv {s s' : Sys} (h : Step Facts.allTrue s s') (inv : Inv s) : Inv s' := by
  cases h with
  | acquire t j hmu hpc hjob =>
    have hidle : ∀ i, i ≠ t → (s.threads i).pc = .idle := fun i _ => idle_of_free inv hmu i
    exact inv.update hidle _ rfl (holder := fun _ => rfl) (wire := inv.wire)
      (cur := inv.cur_of_not_writing hidle (by simp [hpc])) (proj := proj_same inv t _ rfl) (order := inv.order t)
      (closeLatch := inv.closeLatch)
  | timeout t j hpc hjob =>
    -- `t` holds nothing and the others need not be idle: every `pc` stays, `t` only moves on in its program
    have hpcs : ∀ i, (upd s.threads t { s.threads t with pos := (s.threads t).pos + 1 } i).pc = (s.threads i).pc := by
      intro i; by_cases hit : i = t
      · subst hit; simp
      · rw [upd_other _ _ _ _ hit]
    refine ⟨fun i hi => inv.holder i (hpcs i ▸ hi), inv.wire, fun i k j' hk hj => ?_,
      fun h => inv.curIdle fun i k hk => h i k (by rw [hpcs i]; exact hk),
      fun hl i k hk => inv.frozen hl i k (hpcs i ▸ hk), fun i => ?_, fun i => ?_, inv.closeLatch⟩ <;> dsimp only at *
    · by_cases hit : i = t
      · subst hit; rw [hpcs i, hpc] at hk; cases hk
      · rw [upd_other _ _ _ _ hit] at hk hj; exact inv.curWriting i k j' hk hj
    · by_cases hit : i = t
      · subst hit; simpa using inv.proj i
      · rw [upd_other _ _ _ _ hit]; exact inv.proj i
    · by_cases hit : i = t
      · subst hit; simpa using order_step (inv.order i)
      · rw [upd_other _ _ _ _ hit]; exact inv.order i
  | latchErr t hpc hl =>
    have hidle := others_idle inv hpc (by simp)
    exact inv.update hidle _ rfl (holder := fun h => absurd rfl h) (wire := inv.wire)
      (cur := inv.cur_of_not_writing hidle (by simp [hpc])) (proj := proj_same inv t _ rfl)
      (order := order_step (inv.order t)) (closeLatch := inv.closeLatch)
  | begin t hpc hl =>
    have hidle := others_idle inv hpc (by simp)
    have hcur : s.cur = [] := (inv.cur_of_not_writing hidle (by simp [hpc])).resolve_right (by simp [hl])
    exact inv.update hidle _ rfl (holder := fun _ => inv.holder t (by simp [hpc])) (wire := inv.wire)
      (cur := ⟨hl, fun _ _ => by simp [hcur]⟩) (proj := proj_same inv t _ rfl) (order := inv.order t)
      (closeLatch := inv.closeLatch)
  | write t j k b hpc hjob hb =>
    have hlatch := latch_none_of_writing inv hpc
    refine inv.update (others_idle inv hpc (by simp)) _ rfl (holder := fun _ => inv.holder t (by simp [hpc]))
      (wire := by simp [inv.wire]) (cur := ⟨hlatch, fun j' hj => ?_⟩)
      (proj := proj_same inv t _ rfl) (order := inv.order t) (closeLatch := inv.closeLatch)
    cases hjob.symm.trans hj
    show s.cur ++ b = _
    rw [inv.curWriting t k j hpc hjob, List.take_add_one, hb]; simp
  | writeFail t j k b p hpc hjob hb hp =>
    have hlatch := latch_none_of_writing inv hpc
    exact inv.update (others_idle inv hpc (by simp)) _ rfl (holder := fun h => absurd rfl h)
      (wire := by simp [inv.wire]) (cur := Or.inr (by simp [hlatch])) (proj := proj_same inv t _ rfl)
      (order := order_step (inv.order t)) (closeLatch := fun _ => by simp [hlatch])
  | finish t j hpc hjob hnc =>
    exact inv.update (others_idle inv hpc (by simp)) _ rfl (holder := fun h => absurd rfl h)
      (wire := by simp [inv.wire]) (cur := Or.inl rfl) (proj := proj_done inv t _ s.cur rfl)
      (order := order_done inv hpc hjob) (closeLatch := inv.closeLatch)
  | finishClose t j hpc hjob hc =>
    have hlatch := latch_none_of_writing inv hpc
    exact inv.update (others_idle inv hpc (by simp)) _ rfl (holder := fun _ => inv.holder t (by simp [hpc]))
      (wire := by simp [inv.wire]) (cur := Or.inl rfl) (proj := proj_done inv t _ s.cur rfl)
      (order := order_done inv hpc hjob) (closeLatch := fun _ => by simp [hlatch])
  | release t hpc =>
    have hidle := others_idle inv hpc (by simp)
    exact inv.update hidle _ rfl (holder := fun h => absurd rfl h) (wire := inv.wire)
      (cur := inv.cur_of_not_writing hidle (by simp [hpc])) (proj := proj_same inv t _ rfl) (order := inv.order t)
      (closeLatch := inv.closeLatch)
  | closeTransport =>
    exact ⟨inv.holder, inv.wire, inv.curWriting, inv.curIdle, inv.frozen, inv.proj, inv.order, inv.closeLatch⟩
  | badNoLock t j hf => cases hf
  | badStaleCheck t hf => cases hf
  | badLateLatch t j hf => cases hf
  | badSplitHold t k hf => cases hf

theorem reach_inv {s0 s : Sys} (h0 : Inv s0) (h : Reach Facts.allTrue s0 s) : Inv s := by
  induction h with
  | refl => exact h0
  | step _ hs ih => exact step_inv hs ih

/-- From `s` to `s'` nothing an observer sees has changed. -/
structure Frozen (s s' : Sys) : Prop where
  wire : s'.wire = s.wire
  done : s'.done = s.done
  latch : s'.latch = s.latch
  okFrames : ∀ t, (s'.threads t).okFrames = (s.threads t).okFrames

theorem Frozen.refl (s : Sys) : Frozen s s := ⟨rfl, rfl, rfl, fun _ => rfl⟩

theorem Frozen.trans {s s' s'' : Sys} (h : Frozen s s') (h' : Frozen s' s'') : Frozen s s'' :=
  ⟨h'.wire.trans h.wire, h'.done.trans h.done, h'.latch.trans h.latch, fun t => (h'.okFrames t).trans (h.okFrames t)⟩

theorem frozen_step {s s' : Sys} (inv : Inv s) (hl : s.latch ≠ none) (h : Step Facts.allTrue s s') : Frozen s s' := by
  have hokf : ∀ (t : Nat) (th : Thread), th.okFrames = (s.threads t).okFrames →
      ∀ i, (upd s.threads t th i).okFrames = (s.threads i).okFrames := by
    intro t th hth i
    by_cases hit : i = t
    · subst hit; simpa using hth
    · rw [upd_other _ _ _ _ hit]
  cases h with
  | acquire t j hmu hpc hjob => exact ⟨rfl, rfl, rfl, hokf t _ rfl⟩
  | timeout t j hpc hjob => exact ⟨rfl, rfl, rfl, hokf t _ rfl⟩
  | latchErr t hpc _ => exact ⟨rfl, rfl, rfl, hokf t _ rfl⟩
  | begin t hpc hnone => exact absurd hnone hl
  | write t j k b hpc => exact absurd hpc (inv.frozen hl t k)
  | writeFail t j k b p hpc => exact absurd hpc (inv.frozen hl t k)
  | finish t j hpc => exact absurd hpc (inv.frozen hl t _)
  | finishClose t j hpc => exact absurd hpc (inv.frozen hl t _)
  | release t hpc => exact ⟨rfl, rfl, rfl, hokf t _ rfl⟩
  | closeTransport => exact ⟨rfl, rfl, rfl, fun _ => rfl⟩
  | badNoLock t j hf => cases hf
  | badStaleCheck t hf => cases hf
  | badLateLatch t j hf => cases hf
  | badSplitHold t k hf => cases hf

theorem frozen_reach {s s' : Sys} (inv : Inv s) (hl : s.latch ≠ none) (h : Reach Facts.allTrue s s') :
    Frozen s s' ∧ Inv s' := by
  induction h with
  | refl => exact ⟨.refl s, inv⟩
  | step _ hs ih => exact ⟨ih.1.trans (frozen_step ih.2 (ih.1.latch ▸ hl) hs), step_inv hs ih.2⟩

theorem genFacts_allTrue_of (h1 : Gen.Websocket.allConnWritesUnderMu = true)
    (h2 : Gen.Websocket.writeErrCheckedUnderMuBeforeWrite = true)
    (h3 : Gen.Websocket.closeLatchSetBeforeRelease = true)
    (h4 : Gen.Websocket.dataFrameBuffersWrittenInOneLockHold = true) : genFacts = Facts.allTrue := by
  simp [genFacts, Facts.allTrue, h1, h2, h3, h4]

theorem mem_set_frames {senders : List Sender} {i : Nat} {f : Bytes} {rest : List Bytes} {a : Bool}
    (hi : senders[i]? = some ⟨f :: rest, a⟩) {s : Sender} (hs : s ∈ senders.set i ⟨rest, a⟩) {g : Bytes}
    (hg : g ∈ s.frames) : ∃ s' ∈ senders, g ∈ s'.frames := by
  obtain ⟨j, hj⟩ := List.getElem?_of_mem hs
  by_cases hji : j = i
  · subst hji
    rw [List.getElem?_set_self (List.getElem?_eq_some_iff.mp hi).1] at hj
    cases hj
    exact ⟨_, List.mem_of_getElem? hi, List.mem_cons_of_mem _ hg⟩
  · rw [List.getElem?_set_ne (fun h => hji h.symm)] at hj
    exact ⟨s, List.mem_of_getElem? hj, hg⟩

theorem acceptsF_sound (fuel : Nat) : ∀ (wire : Bytes) (senders : List Sender) (partials : List Bytes),
    acceptsF fuel wire senders partials = true →
    ∃ (frames : List Bytes) (p : Bytes), wire = frames.flatten ++ p ∧
      (∀ f ∈ frames, ∃ s ∈ senders, f ∈ s.frames) ∧
      (p = [] ∨ ∃ f ∈ partials, p.length < f.length ∧ f.take p.length = p) := by
  induction fuel with
  | zero => intro w s p h; simp [acceptsF] at h
  | succ n ih =>
    intro wire senders partials h
    simp only [acceptsF, Bool.or_eq_true] at h
    rcases h with h | h
    · simp only [Bool.and_eq_true, Bool.or_eq_true, List.any_eq_true] at h
      obtain ⟨_, h2⟩ := h
      rcases h2 with h2 | ⟨f, hf, h3⟩
      · have : wire = [] := by simpa using h2
        exact ⟨[], [], by simp [this], by simp, Or.inl rfl⟩
      · simp only [decide_eq_true_eq, beq_iff_eq] at h3
        exact ⟨[], wire, by simp, by simp, Or.inr ⟨f, hf, h3.1, h3.2⟩⟩
    · simp only [List.any_eq_true, List.mem_range] at h
      obtain ⟨i, _, hi⟩ := h
      split at hi
      · rename_i f rest a hsi
        simp only [Bool.and_eq_true, decide_eq_true_eq, beq_iff_eq] at hi
        obtain ⟨⟨hlen, htake⟩, hrec⟩ := hi
        obtain ⟨frames, p, e1, e2, e3⟩ := ih _ _ _ hrec
        refine ⟨f :: frames, p, ?_, ?_, e3⟩
        · have : wire = wire.take f.length ++ wire.drop f.length := (List.take_append_drop _ _).symm
          rw [this, htake, e1]; simp
        · intro g hg
          rcases List.mem_cons.mp hg with rfl | hg'
          · exact ⟨_, List.mem_of_getElem? hsi, by simp⟩
          · obtain ⟨s, hs, hgs⟩ := e2 g hg'
            exact mem_set_frames hsi hs hgs
      · cases hi

theorem accepts_sound (wire : Bytes) (senders : List Sender) (partials : List Bytes)
    (h : accepts wire senders partials = true) :
    ∃ (frames : List Bytes) (p : Bytes), wire = frames.flatten ++ p ∧
      (∀ f ∈ frames, ∃ s ∈ senders, f ∈ s.frames) ∧
      (p = [] ∨ ∃ f ∈ partials, p.length < f.length ∧ f.take p.length = p) :=
  acceptsF_sound _ wire senders partials h

end Oryx.WsConc
