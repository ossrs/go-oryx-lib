/-
  C04: invariant of the request/response matching system for the `registerThenWrite` order.
-/
import Oryx.Model.RtmpTxn
namespace Oryx.RtmpTxn
open Oryx Gen.Rtmp

structure Good (s : St) : Prop where
  /-- Every request registered so far is outstanding or answered: those on the wire, and those of `pend`, whose
  write is the writer's next step (there is at most one; nothing below needs that). -/
  registered_ok : ∃ pend rest : List Nat, s.prog = pend.map .write ++ progOf .registerThenWrite rest ∧
    ∀ t ∈ s.wire ++ pend, t ∈ s.table ∨ t ∈ s.responded
  responded_on_wire : ∀ t ∈ s.responded, t ∈ s.wire
  failed_nil : s.failed = []
  matched_eq : s.matched = s.responded
  responded_nodup : s.responded.Nodup

theorem Good.wire_ok {s : St} (hg : Good s) {t : Nat} (ht : t ∈ s.wire) : t ∈ s.table ∨ t ∈ s.responded :=
  let ⟨_, _, _, h⟩ := hg.registered_ok; h t (List.mem_append_left _ ht)

theorem good_init (reqs : List Nat) : Good (init .registerThenWrite reqs) :=
  ⟨⟨[], reqs, rfl, nofun⟩, nofun, rfl, rfl, .nil⟩

theorem good_step {s s' : St} {a : Act} (hg : Good s) (hs : step s a = some s') : Good s' := by
  obtain ⟨pend, rest, hp, hok⟩ := hg.registered_ok
  cases a with
  | w =>
    simp only [step, hp] at hs
    cases pend with
    | nil =>
      cases rest with
      | nil => cases hs
      | cons t rest' =>
        cases hs
        exact { hg with registered_ok := ⟨[t], rest', rfl, fun x hx => (List.mem_append.mp hx).elim
          (fun h => (hok x (List.mem_append_left _ h)).imp_left (List.mem_cons_of_mem _))
          fun h => .inl (List.mem_singleton.mp h ▸ List.mem_cons_self ..)⟩ }
    | cons t pend' =>
      cases hs
      exact { hg with
        registered_ok := ⟨pend', rest, rfl, fun x hx => hok x (by rwa [List.append_assoc] at hx)⟩
        responded_on_wire := fun x hx => List.mem_append_left _ (hg.responded_on_wire x hx) }
  | r t =>
    simp only [step] at hs
    split at hs
    · next hen =>
      rw [if_pos ((hg.wire_ok hen.1).resolve_right hen.2)] at hs
      cases hs
      exact { hg with
        registered_ok := ⟨pend, rest, hp, fun x hx => by
          by_cases hxt : x = t
          · exact .inr (hxt ▸ List.mem_cons_self ..)
          · exact (hok x hx).imp (List.mem_erase_of_ne hxt).mpr (List.mem_cons_of_mem _)⟩
        responded_on_wire := fun x hx => (List.mem_cons.mp hx).elim (· ▸ hen.1) (hg.responded_on_wire x)
        matched_eq := congrArg (t :: ·) hg.matched_eq
        responded_nodup := List.nodup_cons.mpr ⟨hen.2, hg.responded_nodup⟩ }
    · cases hs
  | stray t =>
    simp only [step] at hs
    split at hs
    · cases hs
    · cases hs
      exact { hg with }

theorem good_run {s s' : St} (acts : List Act) (hg : Good s) (hr : run s acts = some s') : Good s' := by
  induction acts generalizing s with
  | nil => simp [run] at hr; subst hr; exact hg
  | cons a as ih =>
    simp only [run] at hr
    cases hst : step s a with
    | none => simp [hst] at hr
    | some s1 =>
      simp only [hst] at hr
      exact ih (good_step hg hst) hr

end Oryx.RtmpTxn
