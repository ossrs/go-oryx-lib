/-
  Helper lemmas for C16 (JOSE): base64url, compact serialisation and its two parsers, signing input / AAD injectivity,
  signatures `Verify` rejects, which encrypted keys `Decrypt` passes over and what it returns, PKCS#7, CBC-HMAC tag
  input, fixed-width integers, header merge. Key wrap is in Proofs/JoseKw.lean.
-/
import Oryx.Model.Jose
namespace Oryx

namespace Jose
open Oryx.Res

/-! ## base64url: the alphabet

`alphabet` is a string literal, and a literal is its UTF-8 bytes: every `whnf` of `alphabet` decodes
them again (thousands of heartbeats). `alphabet_eq` states it as the list of its characters (the unifier
opens the literal against `String.ofList`; nothing is decoded), and the proofs below
never let the unifier see through `encChar`/`sextet`: no `decide`/`rfl` on terms that mention them, and
`rw` with `c = encChar n` rather than `subst` (which puts `encChar n` in weak head normal form). -/

theorem alphabet_eq : alphabet =
    ['A','B','C','D','E','F','G','H','I','J','K','L','M','N','O','P','Q','R','S','T','U','V','W','X','Y','Z',
     'a','b','c','d','e','f','g','h','i','j','k','l','m','n','o','p','q','r','s','t','u','v','w','x','y','z',
     '0','1','2','3','4','5','6','7','8','9','-','_'] := by
  unfold alphabet
  rw [String.toList_ofList]

theorem alphabet_length : alphabet.length = 64 := by rw [alphabet_eq]; rfl

theorem alphabet_nodup : alphabet.Nodup := by rw [alphabet_eq]; decide +kernel

theorem alphabet_class : ∀ c ∈ alphabet,
    c ≠ '.' ∧ c ≠ '=' ∧ isNl c = false ∧ isWs c = false ∧ c.toNat < 256 := by
  rw [alphabet_eq]; decide +kernel

theorem encChar_eq {n : Nat} (h : n < alphabet.length) : encChar n = alphabet[n] := by
  rw [encChar, List.getD_eq_getElem?_getD, List.getElem?_eq_getElem h, Option.getD_some]

theorem sextet_eq_some {c : Char} {n : Nat} : sextet c = some n ↔ n < 64 ∧ encChar n = c := by
  rw [sextet, ← alphabet_length]
  constructor
  · intro h
    split at h
    · rename_i hlt
      rw [Option.some_inj] at h
      subst h
      exact ⟨hlt, by rw [encChar_eq hlt]; exact List.getElem_idxOf hlt⟩
    · cases h
  · rintro ⟨h, rfl⟩
    simp only [encChar_eq h, alphabet_nodup.idxOf_getElem, if_pos h]

theorem sextet_enc {n : Nat} (h : n < 64) : sextet (encChar n) = some n := sextet_eq_some.2 ⟨h, rfl⟩

/-- A character the encoder can emit. -/
def B64Char (c : Char) : Prop := ∃ n, n < 64 ∧ c = encChar n

theorem B64Char.iff_mem {c : Char} : B64Char c ↔ c ∈ alphabet := by
  constructor
  · rintro ⟨n, h, e⟩
    rw [← alphabet_length] at h
    rw [e, encChar_eq h]; exact List.getElem_mem h
  · intro h
    obtain ⟨n, hn, rfl⟩ := List.getElem_of_mem h
    exact ⟨n, by rw [← alphabet_length]; exact hn, (encChar_eq hn).symm⟩

theorem B64Char.class {c : Char} (h : B64Char c) :
    c ≠ '.' ∧ c ≠ '=' ∧ isNl c = false ∧ isWs c = false ∧ c.toNat < 256 :=
  alphabet_class c (B64Char.iff_mem.1 h)

theorem B64Char.ne_dot {c : Char} (h : B64Char c) : c ≠ '.' := h.class.1
theorem B64Char.ne_pad {c : Char} (h : B64Char c) : c ≠ '=' := h.class.2.1
theorem B64Char.not_isNl {c : Char} (h : B64Char c) : isNl c = false := h.class.2.2.1
theorem B64Char.not_isWs {c : Char} (h : B64Char c) : isWs c = false := h.class.2.2.2.1
theorem B64Char.toNat_lt {c : Char} (h : B64Char c) : c.toNat < 256 := h.class.2.2.2.2

/-- Out of range `encChar` answers `'A'`, the character of sextet 0: whatever `b64` computes, it emits alphabet
characters. -/
theorem B64Char.enc (n : Nat) : B64Char (encChar n) := by
  by_cases h : n < 64
  · exact ⟨n, h, rfl⟩
  · refine ⟨0, by omega, ?_⟩
    rw [encChar, List.getD_eq_getElem?_getD, List.getElem?_eq_none (by rw [alphabet_length]; omega), encChar, alphabet_eq]
    rfl

theorem sextet_pad : sextet '=' = none := by
  cases h : sextet '=' with
  | none => rfl
  | some n =>
    obtain ⟨hn, e⟩ := sextet_eq_some.1 h
    exact absurd rfl (B64Char.ne_pad ⟨n, hn, e.symm⟩)

theorem clearLow_enc (m : Nat) {n : Nat} (h : n < 64) : clearLow m (encChar n) = encChar (n / m * m) := by
  rw [clearLow, sextet_enc h]

/-! ## `unb64` on texts over the alphabet, quantum by quantum -/

theorem filter_isNl_enc (n : Nat) (s : List Char) :
    (encChar n :: s).filter (fun c => !isNl c) = encChar n :: s.filter (fun c => !isNl c) := by
  rw [List.filter_cons_of_pos (by rw [(B64Char.enc n).not_isNl]; rfl)]

theorem unb64_one {i : Nat} (hi : i < 64) : unb64 [encChar i] = err .generic := by
  show decQ (List.filter _ [encChar i, '=', '=', '=']) = _
  rw [filter_isNl_enc, show List.filter _ ['=', '=', '='] = ['=', '=', '='] from rfl, decQ, sextet_enc hi, sextet_pad]

theorem unb64_two {i j : Nat} (hi : i < 64) (hj : j < 64) :
    unb64 [encChar i, encChar j] = ok [UInt8.ofNat (i * 4 + j / 16)] := by
  show decQ (List.filter _ [encChar i, encChar j, '=', '=']) = _
  rw [filter_isNl_enc, filter_isNl_enc, show List.filter _ ['=', '='] = ['=', '='] from rfl,
    decQ, sextet_enc hi, sextet_enc hj, sextet_pad]
  rfl

theorem unb64_three {i j k : Nat} (hi : i < 64) (hj : j < 64) (hk : k < 64) :
    unb64 [encChar i, encChar j, encChar k] =
      ok [UInt8.ofNat (i * 4 + j / 16), UInt8.ofNat (j % 16 * 16 + k / 4)] := by
  show decQ (List.filter _ [encChar i, encChar j, encChar k, '=']) = _
  rw [filter_isNl_enc, filter_isNl_enc, filter_isNl_enc, show List.filter _ ['='] = ['='] from rfl,
    decQ, sextet_enc hi, sextet_enc hj, sextet_enc hk, sextet_pad]
  rfl

theorem unb64_quad {i j k l : Nat} (hi : i < 64) (hj : j < 64) (hk : k < 64) (hl : l < 64) (rest : List Char) :
    unb64 (encChar i :: encChar j :: encChar k :: encChar l :: rest) = unb64 rest >>= fun r =>
      ok (UInt8.ofNat (i * 4 + j / 16) :: UInt8.ofNat (j % 16 * 16 + k / 4) :: UInt8.ofNat (k % 4 * 64 + l) :: r) := by
  show decQ (List.filter _ (encChar i :: encChar j :: encChar k :: encChar l ::
    (rest ++ List.replicate ((4 - (rest.length + 4) % 4) % 4) '='))) = unb64 rest >>= _
  rw [Nat.add_mod_right, filter_isNl_enc, filter_isNl_enc, filter_isNl_enc, filter_isNl_enc,
    decQ, sextet_enc hi, sextet_enc hj, sextet_enc hk, sextet_enc hl, unb64]
  cases decQ _ <;> rfl

/-! ## three octets ↔ four sextets -/

/-- The four sextets `b64` makes of three octets are below 64, and `decQ`'s arithmetic puts the octets
together again. -/
theorem split_join {a b c : Nat} (ha : a < 256) (hb : b < 256) (hc : c < 256) :
    a / 4 < 64 ∧ a % 4 * 16 + b / 16 < 64 ∧ b % 16 * 4 + c / 64 < 64 ∧ c % 64 < 64 ∧
    a / 4 * 4 + (a % 4 * 16 + b / 16) / 16 = a ∧ (a % 4 * 16 + b / 16) % 16 * 16 + (b % 16 * 4 + c / 64) / 4 = b ∧
    (b % 16 * 4 + c / 64) % 4 * 64 + c % 64 = c := by omega

/-- The other way round: the octets `decQ` makes of four sextets fit a byte and split into the same
sextets. -/
theorem join_split {i j k l : Nat} (hi : i < 64) (hj : j < 64) (hk : k < 64) (hl : l < 64) :
    i * 4 + j / 16 < 256 ∧ j % 16 * 16 + k / 4 < 256 ∧ k % 4 * 64 + l < 256 ∧
    (i * 4 + j / 16) / 4 = i ∧ (i * 4 + j / 16) % 4 * 16 + (j % 16 * 16 + k / 4) / 16 = j ∧
    (j % 16 * 16 + k / 4) % 16 * 4 + (k % 4 * 64 + l) / 64 = k ∧ (k % 4 * 64 + l) % 64 = l := by omega

/-! ## encoder and decoder -/

theorem b64_chars (b : Bytes) : ∀ c ∈ b64 b, B64Char c := by
  induction b using b64.induct with
  | case1 => exact List.forall_mem_nil _
  | case2 a => simp only [b64, List.forall_mem_cons]; exact ⟨.enc _, .enc _, List.forall_mem_nil _⟩
  | case3 a b => simp only [b64, List.forall_mem_cons]; exact ⟨.enc _, .enc _, .enc _, List.forall_mem_nil _⟩
  | case4 a b c rest ih => simp only [b64, List.forall_mem_cons]; exact ⟨.enc _, .enc _, .enc _, .enc _, ih⟩

theorem b64_no_dot (b : Bytes) : '.' ∉ b64 b := fun h => (b64_chars b _ h).ne_dot rfl

theorem unb64_b64 (b : Bytes) : unb64 (b64 b) = ok b := by
  induction b using b64.induct with
  | case1 => rfl
  | case2 a =>
    have h := split_join a.toNat_lt (b := 0) (c := 0) (by omega) (by omega)
    simp only [Nat.zero_div, Nat.add_zero] at h
    obtain ⟨h1, h2, _, _, e1, _⟩ := h
    rw [b64, unb64_two h1 h2, e1, UInt8.ofNat_toNat]
  | case3 a b =>
    have h := split_join a.toNat_lt b.toNat_lt (c := 0) (by omega)
    simp only [Nat.zero_div, Nat.add_zero] at h
    obtain ⟨h1, h2, h3, _, e1, e2, _⟩ := h
    rw [b64, unb64_three h1 h2 h3, e1, e2, UInt8.ofNat_toNat, UInt8.ofNat_toNat]
  | case4 a b c rest ih =>
    obtain ⟨h1, h2, h3, h4, e1, e2, e3⟩ := split_join a.toNat_lt b.toNat_lt c.toNat_lt
    rw [b64, unb64_quad h1 h2 h3 h4, ih, e1, e2, e3, UInt8.ofNat_toNat, UInt8.ofNat_toNat,
      UInt8.ofNat_toNat]
    rfl

theorem b64_inj {a b : Bytes} (h : b64 a = b64 b) : a = b := by
  have h1 := unb64_b64 a
  rw [h, unb64_b64] at h1
  cases h1; rfl

theorem b64_unb64_canon : ∀ (s : List Char), (∀ c ∈ s, B64Char c) → ∀ b, unb64 s = ok b → b64 b = canonLast s
  | [], _, b, hb => by cases hb; rfl
  | [c], h, b, hb => by
    obtain ⟨i, hi, e⟩ := h c (by simp)
    rw [e, unb64_one hi] at hb; cases hb
  | [c1, c2], h, b, hb => by
    simp only [List.forall_mem_cons] at h
    obtain ⟨⟨i, hi, ei⟩, ⟨j, hj, ej⟩, _⟩ := h
    have a := join_split hi hj (k := 0) (l := 0) (by omega) (by omega)
    simp only [Nat.zero_div, Nat.add_zero] at a
    obtain ⟨o1, -, -, e1, -⟩ := a
    rw [ei, ej, unb64_two hi hj] at hb; cases hb
    rw [ei, ej, b64, canonLast, clearLow_enc 16 hj, UInt8.toNat_ofNat_of_lt' o1, e1]
    congr 3; omega
  | [c1, c2, c3], h, b, hb => by
    simp only [List.forall_mem_cons] at h
    obtain ⟨⟨i, hi, ei⟩, ⟨j, hj, ej⟩, ⟨k, hk, ek⟩, _⟩ := h
    obtain ⟨o1, o2, -, e1, e2, -⟩ := join_split hi hj hk (l := 0) (by omega)
    rw [ei, ej, ek, unb64_three hi hj hk] at hb; cases hb
    rw [ei, ej, ek, b64, canonLast, clearLow_enc 4 hk, UInt8.toNat_ofNat_of_lt' o1,
      UInt8.toNat_ofNat_of_lt' o2, e1, e2]
    congr 4; omega
  | c1 :: c2 :: c3 :: c4 :: rest, h, b, hb => by
    simp only [List.forall_mem_cons] at h
    obtain ⟨⟨i, hi, ei⟩, ⟨j, hj, ej⟩, ⟨k, hk, ek⟩, ⟨l, hl, el⟩, hrest⟩ := h
    obtain ⟨o1, o2, o3, e1, e2, e3, e4⟩ := join_split hi hj hk hl
    rw [ei, ej, ek, el, unb64_quad hi hj hk hl, Res.bind_eq_ok] at hb
    obtain ⟨r, hr, hb⟩ := hb
    cases hb
    rw [ei, ej, ek, el, b64, canonLast, b64_unb64_canon rest hrest r hr, UInt8.toNat_ofNat_of_lt' o1,
      UInt8.toNat_ofNat_of_lt' o2, UInt8.toNat_ofNat_of_lt' o3, e1, e2, e3, e4]

/-! ## splitting at dots -/

theorem splitDot_ne_nil (s : List Char) : splitDot s ≠ [] := by
  induction s with
  | nil => simp [splitDot]
  | cons c r ih =>
    simp only [splitDot]
    split
    · simp
    · split <;> simp

theorem splitDot_nodot (a : List Char) (h : '.' ∉ a) : splitDot a = [a] := by
  induction a with
  | nil => rfl
  | cons c r ih =>
    have hc : c ≠ '.' := fun e => h (by simp [e])
    have hr := ih (fun hm => h (List.mem_cons_of_mem _ hm))
    simp [splitDot, hc, hr]

theorem splitDot_append (a rest : List Char) (h : '.' ∉ a) :
    splitDot (a ++ '.' :: rest) = a :: splitDot rest := by
  induction a with
  | nil => simp [splitDot]
  | cons c r ih =>
    have hc : c ≠ '.' := fun e => h (by simp [e])
    have hr := ih (fun hm => h (List.mem_cons_of_mem _ hm))
    simp [splitDot, hc, hr]

theorem splitDot_joinDot (ps : List (List Char)) (hne : ps ≠ []) (h : ∀ p ∈ ps, '.' ∉ p) :
    splitDot (joinDot ps) = ps := by
  induction ps using joinDot.induct with
  | case1 => exact absurd rfl hne
  | case2 a => exact splitDot_nodot a (h a (by simp))
  | case3 a rest hr ih =>
    rw [joinDot, splitDot_append a _ (h a (by simp)), ih (by simpa using hr) fun p hp => h p (List.mem_cons_of_mem _ hp)]
    exact hr

theorem mem_joinDot {c : Char} (ps : List (List Char)) (h : c ∈ joinDot ps) : c = '.' ∨ ∃ p ∈ ps, c ∈ p := by
  induction ps using joinDot.induct with
  | case1 => simp [joinDot] at h
  | case2 a => exact .inr ⟨a, by simp, h⟩
  | case3 a rest hr ih =>
    rw [joinDot, List.mem_append, List.mem_cons] at h
    · rcases h with h | h | h
      · exact .inr ⟨a, by simp, h⟩
      · exact .inl h
      · exact (ih h).imp_right fun ⟨p, hp, hc⟩ => ⟨p, List.mem_cons_of_mem _ hp, hc⟩
    · exact hr

/-! ## compact serialisation: encoded parts joined by dots

The signing input and the JWE AAD are compact serialisations too (of two, resp. one or two parts), so
their injectivity is that of `compactSerialize`. -/

theorem compact_chars (parts : List Bytes) {c : Char} (h : c ∈ compactSerialize parts) : c = '.' ∨ B64Char c :=
  (mem_joinDot _ h).imp_right fun ⟨_, hp, hc⟩ => by
    obtain ⟨b, _, rfl⟩ := List.mem_map.mp hp
    exact b64_chars b c hc

theorem splitDot_compact {parts : List Bytes} (hne : parts ≠ []) :
    splitDot (compactSerialize parts) = parts.map b64 :=
  splitDot_joinDot _ (by simpa using hne) fun p hp => by
    obtain ⟨b, _, rfl⟩ := List.mem_map.mp hp
    exact b64_no_dot b

theorem compactSerialize_inj {ps qs : List Bytes} (hp : ps ≠ []) (hq : qs ≠ [])
    (h : compactSerialize ps = compactSerialize qs) : ps = qs := by
  have e := splitDot_compact hp
  rw [h, splitDot_compact hq] at e
  exact ((List.map_inj_right fun _ _ => b64_inj).1 e).symm

theorem stripWs_compact (parts : List Bytes) : stripWs (compactSerialize parts) = compactSerialize parts :=
  List.filter_eq_self.2 fun c hc => by
    rcases compact_chars parts hc with rfl | h
    · rfl
    · rw [h.not_isWs]; rfl

theorem unb64All_map (parts : List Bytes) : unb64All (parts.map b64) = ok parts := by
  induction parts with
  | nil => rfl
  | cons p ps ih => simp [unb64All, unb64_b64, ih]

theorem compactParse_compactSerialize {parts : List Bytes} (hne : parts ≠ []) :
    compactParse parts.length (compactSerialize parts) = ok parts := by
  simp [compactParse, stripWs_compact, splitDot_compact hne, unb64All_map]

theorem jwsParse_jwsCompact (o : Jws) : jwsParse (jwsCompact o) = ok o := by
  have h : compactParse 3 _ = _ := compactParse_compactSerialize (parts := [o.prot, o.payload, o.sig]) nofun
  rw [jwsParse, jwsCompact, h]

/-- The compact form of a JWE has no place for an AAD. -/
theorem jweParse_jweCompact (o : Jwe) : jweParse (jweCompact o) = ok { o with aad := none } := by
  have h : compactParse 5 _ = _ := compactParse_compactSerialize (parts := [o.prot, o.ek, o.iv, o.ct, o.tag]) nofun
  rw [jweParse, jweCompact, h]

/-! ## signing input / AAD -/

theorem signingInput_inj {p p' m m' : Bytes} (h : signingInput p m = signingInput p' m') : p = p' ∧ m = m' := by
  have := compactSerialize_inj (ps := [p, m]) (qs := [p', m']) nofun nofun h
  simpa using this

theorem aadInput_eq (p : Bytes) (a : Option Bytes) : aadInput p a = compactSerialize (p :: a.toList) := by
  cases a <;> rfl

theorem aadInput_inj {p p' : Bytes} {a a' : Option Bytes} (h : aadInput p a = aadInput p' a') :
    p = p' ∧ a = a' := by
  rw [aadInput_eq, aadInput_eq] at h
  have := compactSerialize_inj (List.cons_ne_nil _ _) (List.cons_ne_nil _ _) h
  cases a <;> cases a' <;> simp_all

theorem bytesOfText_inv {t : List Char} (h : ∀ c ∈ t, c.toNat < 256) :
    (jweEncrypt.bytesOfText t).map (fun b => Char.ofNat b.toNat) = t := by
  rw [jweEncrypt.bytesOfText, List.map_map]
  refine (List.map_congr_left fun c hc => ?_).trans (List.map_id t)
  simp only [Function.comp, UInt8.toNat_ofNat_of_lt' (h c hc), Char.ofNat_toNat, id]

theorem bytesOfText_aadInput_inj {p p' : Bytes} {a a' : Option Bytes}
    (h : jweEncrypt.bytesOfText (aadInput p a) = jweEncrypt.bytesOfText (aadInput p' a')) : p = p' ∧ a = a' := by
  have ascii (p : Bytes) (a : Option Bytes) : ∀ c ∈ aadInput p a, c.toNat < 256 := fun c hc => by
    rw [aadInput_eq] at hc
    rcases compact_chars _ hc with rfl | h
    · decide
    · exact h.toNat_lt
  exact aadInput_inj (by rw [← bytesOfText_inv (ascii p a), h, bytesOfText_inv (ascii p' a')])

/-! ## JWS verification: signatures the primitive rejects -/

theorem jwsVerify_err {SK PK : Type} {P : SigPrim SK PK} {pk : PK} {o : Jws}
    (h : P.verify pk (signingInput o.prot o.payload) o.sig = false) : jwsVerify P pk o = err .generic := by
  rw [jwsVerify, h]; rfl

theorem jwsVerifyMulti_err {SK PK : Type} {P : SigPrim SK PK} {pk : PK} {o : JwsMulti}
    (h : ∀ e ∈ o.sigs, P.verify pk (signingInput e.prot o.payload) e.sig = false) :
    jwsVerifyMulti P pk o = err .generic := by
  rw [jwsVerifyMulti, List.any_eq_false.2 fun e he => by rw [h e he]; exact Bool.false_ne_true]; rfl

/-! ## JWE decryption: which encrypted keys the recipient loop passes over, and where it stops -/

/-- `decompress` of crypter.go: what both `Decrypt`s do with the opened content. -/
def decompress (z : Option Zip) (x : Bytes) : Res Bytes :=
  match z with
  | none => ok x
  | some z =>
    match z.inflate x with
    | some y => ok y
    | none => err .generic

theorem jweDecrypt_err {EK DK : Type} {A : AeadPrim} {K : KeyMgmt EK DK} {z : Option Zip} {dk : DK} {o : Jwe}
    (h : ∀ k, K.unwrap dk o.ek = some k →
      A.openF k o.iv o.ct o.tag (jweEncrypt.bytesOfText (aadInput o.prot o.aad)) = none) :
    jweDecrypt A K z dk o = err .generic := by
  unfold jweDecrypt
  cases hu : K.unwrap dk o.ek with
  | none => rfl
  | some k => simp only [h k hu, decryptResult]

theorem jweDecrypt_of_open {EK DK : Type} {A : AeadPrim} {K : KeyMgmt EK DK} {z : Option Zip} {dk : DK} {o : Jwe}
    {k x : Bytes} (hu : K.unwrap dk o.ek = some k)
    (ho : A.openF k o.iv o.ct o.tag (jweEncrypt.bytesOfText (aadInput o.prot o.aad)) = some x) :
    jweDecrypt A K z dk o = decompress z x := by
  simp only [jweDecrypt, hu, ho, decryptResult]; rfl

theorem jweDecryptLoop_err {EK DK : Type} {A : AeadPrim} {K : KeyMgmt EK DK} {dk : DK} {o : JweMulti} :
    ∀ l : List Bytes, (∀ e ∈ l, ∀ k, K.unwrap dk e = some k →
      A.openF k o.iv o.ct o.tag (jweEncrypt.bytesOfText (aadInput o.prot o.aad)) = none) →
    jweDecryptLoop A K dk o l = err .generic
  | [], _ => rfl
  | e :: l, h => by
    have ih := jweDecryptLoop_err l fun e he => h e (List.mem_cons_of_mem _ he)
    rw [jweDecryptLoop]
    cases hu : K.unwrap dk e with
    | none => exact ih
    | some k => simp only [h e (List.mem_cons_self ..) k hu, decryptResult]; exact ih

/-- Where the entry stands does not matter: by `hx` an entry in front of it is passed over or gives `x` itself. -/
theorem jweDecryptLoop_ok {EK DK : Type} {A : AeadPrim} {K : KeyMgmt EK DK} {dk : DK} {o : JweMulti} {x : Bytes}
    (hx : ∀ k, A.openF k o.iv o.ct o.tag (jweEncrypt.bytesOfText (aadInput o.prot o.aad)) = none ∨
      A.openF k o.iv o.ct o.tag (jweEncrypt.bytesOfText (aadInput o.prot o.aad)) = some x)
    {e k : Bytes} (hu : K.unwrap dk e = some k)
    (ho : A.openF k o.iv o.ct o.tag (jweEncrypt.bytesOfText (aadInput o.prot o.aad)) = some x) (post : List Bytes) :
    ∀ pre : List Bytes, jweDecryptLoop A K dk o (pre ++ e :: post) = ok x
  | [] => by simp only [List.nil_append, jweDecryptLoop, hu, ho, decryptResult]
  | e' :: pre => by
    have ih := jweDecryptLoop_ok hx hu ho post pre
    rw [List.cons_append, jweDecryptLoop]
    cases hu' : K.unwrap dk e' with
    | none => exact ih
    | some k' =>
      rcases hx k' with h | h
      · simp only [h, decryptResult]; exact ih
      · simp only [h, decryptResult]

theorem jweDecryptMulti_eq {EK DK : Type} (A : AeadPrim) (K : KeyMgmt EK DK) (z : Option Zip) (dk : DK) (o : JweMulti) :
    jweDecryptMulti A K z dk o = jweDecryptLoop A K dk o o.eks >>= decompress z := by
  rw [jweDecryptMulti]; cases jweDecryptLoop A K dk o o.eks <;> rfl

theorem jweDecryptMulti_err {EK DK : Type} {A : AeadPrim} {K : KeyMgmt EK DK} {z : Option Zip} {dk : DK} {o : JweMulti}
    (h : ∀ e ∈ o.eks, ∀ k, K.unwrap dk e = some k →
      A.openF k o.iv o.ct o.tag (jweEncrypt.bytesOfText (aadInput o.prot o.aad)) = none) :
    jweDecryptMulti A K z dk o = err .generic := by
  rw [jweDecryptMulti_eq, jweDecryptLoop_err _ h]; rfl

/-! ## PKCS#7 -/

theorem pad_length (k : Nat) (b : Bytes) : (pad k b).length = b.length + (k - b.length % k) := by
  simp [pad]

theorem pad_length_mod (k : Nat) (hk : 0 < k) (b : Bytes) : (pad k b).length % k = 0 := by
  have hm := Nat.mod_lt b.length hk
  have h := Nat.div_add_mod b.length k
  have : b.length + (k - b.length % k) = k * (b.length / k + 1) := by
    rw [Nat.mul_add, Nat.mul_one]; omega
  rw [pad_length, this]; exact Nat.mul_mod_right _ _

theorem unpad_pad (k : Nat) (hk : 0 < k) (hk2 : k < 256) (b : Bytes) : unpad k (pad k b) = ok b := by
  have hl := pad_length k b
  have hmod := pad_length_mod k hk b
  have h1 : 1 ≤ k - b.length % k := Nat.sub_pos_of_lt (Nat.mod_lt _ hk)
  have h2 : k - b.length % k ≤ k := Nat.sub_le ..
  have hp : pad k b = b ++ List.replicate (k - b.length % k) (UInt8.ofNat (k - b.length % k)) := rfl
  generalize k - b.length % k = m at hl h1 h2 hp
  have hm : (UInt8.ofNat m).toNat = m := UInt8.toNat_ofNat_of_lt' (Nat.lt_of_le_of_lt h2 hk2)
  have hlast : (pad k b).getLast? = some (UInt8.ofNat m) := by
    rw [hp, List.getLast?_append, List.getLast?_replicate, if_neg (by omega)]; rfl
  rw [unpad, if_neg (by omega), hlast]
  simp only [hm]
  rw [if_neg (by omega), hl, Nat.add_sub_cancel, hp, drop_append_len _ _ rfl, take_append_len _ _ rfl, if_pos rfl]

theorem unpad_ne_panic (k : Nat) (b : Bytes) : unpad k b ≠ .panic := by
  refine guard_ne_panic fun h => ?_
  cases hb : b.getLast? with
  | none => simp [List.getLast?_eq_none_iff.mp hb] at h
  | some last => exact guard_ne_panic fun _ => by split <;> exact nofun

/-! ## CBC-HMAC tag input -/

theorem tagInput_inj {aad aad' iv iv' ct ct' : Bytes} (hiv : iv.length = iv'.length)
    (ha : aad.length * 8 < 2 ^ 64) (ha' : aad'.length * 8 < 2 ^ 64)
    (h : tagInput aad iv ct = tagInput aad' iv' ct') : aad = aad' ∧ iv = iv' ∧ ct = ct' := by
  unfold tagInput at h
  rw [Nat.mod_eq_of_lt ha, Nat.mod_eq_of_lt ha'] at h
  obtain ⟨h1, h2⟩ := List.append_inj' h (by simp [be_length])
  have hlen : aad.length * 8 = aad'.length * 8 :=
    be_inj (n := 8) (by simpa using ha) (by simpa using ha') h2
  have hl : aad.length = aad'.length := by omega
  rw [List.append_assoc, List.append_assoc] at h1
  obtain ⟨h3, h4⟩ := List.append_inj h1 hl
  obtain ⟨h5, h6⟩ := List.append_inj h4 hiv
  exact ⟨h3, h5, h6⟩

/-! ## fixed-width integers -/

theorem ecSigDecode_eq_ok {size : Nat} {sig : Bytes} {r s : Nat} : ecSigDecode size sig = ok (r, s) ↔
    sig.length = 2 * size ∧ ofBE (sig.take size) = r ∧ ofBE (sig.drop size) = s := by
  by_cases hl : sig.length = 2 * size <;> simp [ecSigDecode, hl]

theorem ecSigDecode_inj (size : Nat) {sig sig' : Bytes} {r s : Nat}
    (h1 : ecSigDecode size sig = ok (r, s)) (h2 : ecSigDecode size sig' = ok (r, s)) : sig = sig' := by
  obtain ⟨l1, a1, b1⟩ := ecSigDecode_eq_ok.1 h1
  obtain ⟨l2, a2, b2⟩ := ecSigDecode_eq_ok.1 h2
  rw [← List.take_append_drop size sig, ← List.take_append_drop size sig',
    ofBE_inj_of_length (by rw [List.length_take, List.length_take, l1, l2]) (a1.trans a2.symm),
    ofBE_inj_of_length (by rw [List.length_drop, List.length_drop, l1, l2]) (b1.trans b2.symm)]

theorem fixedSize_ok (n v : Nat) (h : v < 256 ^ n) : fixedSize n v = ok (be n v) ∧ (be n v).length = n ∧
    ofBE (be n v) = v := ⟨by simp [fixedSize, h], be_length _ _, ofBE_be_of_lt h⟩

/-! ## header merge -/

theorem pick_assoc (a b c : String) : pick (pick a b) c = pick a (pick b c) := by
  unfold pick; split <;> simp_all

theorem pick_empty (s : String) : pick "" s = s := if_pos rfl

theorem mergedHeaders_some (p u r : Header) : mergedHeaders (some p) (some u) (some r) =
    { alg := pick p.alg (pick u.alg r.alg), enc := pick p.enc (pick u.enc r.enc), zip := pick p.zip (pick u.zip r.zip),
      kid := pick p.kid (pick u.kid r.kid), nonce := pick p.nonce (pick u.nonce r.nonce) } := by
  simp only [mergedHeaders, Header.merge, pick_empty, pick_assoc]

end Oryx.Jose
