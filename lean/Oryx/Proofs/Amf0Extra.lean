/-
  C05 helpers: the property bag's Get/Set laws, and the instrumented decoding cost: its closed form on
  nested containers when the `Size()` re-walk is charged (K3), and the bound of three units per encoded
  byte when it is not (C07).
-/
import Oryx.Proofs.Amf0RoundTrip
namespace Oryx.Amf0
open Oryx Oryx.Res

namespace Props

theorem keys_replace (k : Bytes) (v : Val) : ∀ ps : Props, (ps.replace k v).keys = ps.keys
  | .nil => rfl
  | .cons k' w tl => by
    by_cases h : k' = k <;> simp [replace, h, keys, keys_replace k v tl]

theorem keys_append : ∀ ps q : Props, (ps.append q).keys = ps.keys ++ q.keys
  | .nil, q => rfl
  | .cons k w tl, q => by simp [append, keys, keys_append tl q]

theorem has_iff_mem (k : Bytes) : ∀ ps : Props, ps.has k = true ↔ k ∈ ps.keys
  | .nil => by simp [has, keys]
  | .cons k' w tl => by simp [has, keys, has_iff_mem k tl, @eq_comm _ k' k]

theorem get_replace_same (k : Bytes) (v : Val) : ∀ ps : Props, ps.has k = true → (ps.replace k v).get k = some v
  | .nil, h => by simp [has] at h
  | .cons k' w tl, h => by
    by_cases hk : k' = k
    · simp [replace, hk, get]
    · have : tl.has k = true := by simpa [has, hk] using h
      simp [replace, hk, get, get_replace_same k v tl this]

theorem get_replace_other (k : Bytes) (v : Val) {k' : Bytes} (hne : k' ≠ k) :
    ∀ ps : Props, (ps.replace k v).get k' = ps.get k'
  | .nil => rfl
  | .cons k₀ w tl => by
    have ih := get_replace_other k v hne tl
    by_cases hk : k₀ = k
    · subst hk; simp [replace, get, Ne.symm hne, ih]
    · by_cases hk' : k₀ = k'
      · subst hk'; simp [replace, get, hk]
      · simp [replace, get, hk, hk', ih]

theorem get_append_of_not_has (k : Bytes) (q : Props) : ∀ ps : Props, ps.has k = false → (ps.append q).get k = q.get k
  | .nil, _ => rfl
  | .cons k' w tl, h => by
    have ⟨h1, h2⟩ : ¬ k' = k ∧ tl.has k = false := by simpa [has] using h
    simp [append, get, h1, get_append_of_not_has k q tl h2]

theorem get_append_other {k k' : Bytes} (v : Val) (hne : k' ≠ k) :
    ∀ ps : Props, (ps.append (.cons k v .nil)).get k' = ps.get k'
  | .nil => by
    have : ¬ k = k' := fun e => hne e.symm
    simp [append, get, this]
  | .cons k₀ w tl => by
    by_cases hk' : k₀ = k' <;> simp [append, get, hk', get_append_other v hne tl]

theorem get_set_same (k : Bytes) (v : Val) (ps : Props) : (ps.set k v).get k = some v := by
  unfold set
  split
  · next h => exact get_replace_same k v ps h
  · next h =>
    rw [get_append_of_not_has k _ ps (by simpa using h)]
    simp [get]

theorem get_set_other (k : Bytes) (v : Val) {k' : Bytes} (hne : k' ≠ k) (ps : Props) :
    (ps.set k v).get k' = ps.get k' := by
  unfold set
  split
  · exact get_replace_other k v hne ps
  · exact get_append_other v hne ps

theorem keys_nodup_set (k : Bytes) (v : Val) (ps : Props) (h : ps.keys.Nodup) : (ps.set k v).keys.Nodup := by
  unfold set
  split
  · rw [keys_replace]; exact h
  · next hh =>
    rw [keys_append]
    simp only [keys]
    have hn : k ∉ ps.keys := fun hm => hh ((has_iff_mem k ps).2 hm)
    rw [List.nodup_append]
    refine ⟨h, by simp, ?_⟩
    intro a ha b hb
    simp at hb
    subst hb
    intro e; subst e; exact hn ha

end Props

theorem walk_nest (k : Bytes) (v : Val) : ∀ d, walk (nest k d v) = 2 * d + walk v
  | 0 => by simp [nest]
  | d+1 => by simp [nest, walk, walkP, walk_nest k v d]; omega

theorem costV_nest (k : Bytes) : ∀ d, costV true (nest k d .null) = d * d + 2 * d + 1
  | 0 => by simp [nest, costV]
  | d+1 => by
    simp only [nest, costV, costP, costV_nest k d, walk_nest, walk, if_true]
    simp only [Nat.succ_mul, Nat.mul_succ]
    omega

mutual
/-- Every value the decoder reads costs one unit, every key one unit, every advance one unit: with the
constant-time advance the cost is at most three units per node. -/
theorem costV_le_walk : ∀ v : Val, costV false v ≤ 3 * walk v
  | .obj ps | .ecma _ ps | .strict ps => by simp only [costV, walk]; have := costP_le_walk ps; omega
  | .num _ | .bool _ | .str _ | .null | .undef | .eof => by simp [costV, walk]
theorem costP_le_walk : ∀ ps : Props, costP false ps ≤ 3 * walkP ps
  | .nil => by simp [costP, walkP]
  | .cons _ v tl => by
    simp only [costP, walkP, Bool.false_eq_true, if_false]
    have := costV_le_walk v; have := costP_le_walk tl; omega
end

mutual
/-- Each visited value occupies at least one byte and each key at least two. -/
theorem walk_le_size : ∀ v : Val, walk v ≤ size v
  | .obj ps | .ecma _ ps | .strict ps => by simp only [walk, size]; have := walkP_le_size ps; omega
  | .num _ | .bool _ | .str _ | .null | .undef | .eof => by simp [walk, size]
theorem walkP_le_size : ∀ ps : Props, walkP ps ≤ sizeP ps
  | .nil => by simp [walkP, sizeP]
  | .cons k v tl => by
    simp only [walkP, sizeP, utf8Size]
    have := walk_le_size v; have := walkP_le_size tl; omega
end

theorem costV_le_size (v : Val) : costV false v ≤ 3 * size v :=
  Nat.le_trans (costV_le_walk v) (Nat.mul_le_mul_left 3 (walk_le_size v))

theorem size_nest (k : Bytes) : ∀ d, size (nest k d .null) = (6 + k.length) * d + 1
  | 0 => by simp [nest, size]
  | d+1 => by
    simp only [nest, size, sizeP, utf8Size, size_nest k d, Nat.mul_succ]
    omega

end Oryx.Amf0
