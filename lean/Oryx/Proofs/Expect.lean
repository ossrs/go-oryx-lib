/-
  C08 — the loop of `ExpectMessage` / `ExpectPacket` (Oryx/Model/Expect.lean).
-/
import Oryx.Model.Expect
namespace Oryx.Model.Expect

theorem expectLoop_skip {ε α : Type} (b : Bool) (want : α → Bool) (pre : List α) (rest : List (Except ε α))
    (hpre : ∀ m ∈ pre, want m = false) : expectLoop b want (pre.map .ok ++ rest) = expectLoop b want rest := by
  induction pre with
  | nil => rfl
  | cons m pre ih =>
    rw [List.map_cons, List.cons_append, expectLoop, hpre m (List.mem_cons_self ..),
      ih fun x hx => hpre x (List.mem_cons_of_mem _ hx)]
    rfl

end Oryx.Model.Expect
