/-
  Lemmas for C09 (FLV mux/demux and layout); the property statements are in Oryx/Props/C09.lean.
  Each reader is characterised once: `io.EOF` on short input (`…_short`), its value on an exact prefix followed by
  anything (`readHeader_writeHeader`, `readTagHeader_cons`, `readTag_append`), and `…_sat`: no panic, and a success
  splits off a prefix (for the tag readers: one read the same way whatever follows). Frame, bytes consumed and
  termination of the loop are read off that. The muxer's bytes are `Spec.Flv`'s by `be_three` / `be_four`
  (`mux_eq_spec`, tags through `Tag.toSpec`). `wholeTags k` names what a cut at `k` returns; the round trip is the
  `k = length` case of the cut theorem `demux_cut`.
-/
import Oryx.Model.Flv
import Oryx.Spec.Flv
import Oryx.Base.Sat
namespace Oryx.Flv
open Oryx Oryx.Res

/-- The model has a `copyN` of its own; it is the stream library's, whose facts are restated on it below. -/
theorem copyN_eq_stream (n : Nat) (s : Bytes) : copyN n s = Oryx.copyN n s := by
  rw [Oryx.copyN_eq]; unfold copyN
  by_cases h : n ≤ s.length
  · rw [if_pos h, if_neg (by omega)]
  · rw [if_neg h, if_pos (by omega)]

theorem copyN_append {n : Nat} (a rest : Bytes) (h : a.length = n) : copyN n (a ++ rest) = ok (a, rest) :=
  (copyN_eq_stream n _).trans (Oryx.copyN_append a rest h)

theorem copyN_sat (n : Nat) (s : Bytes) : (copyN n s).Sat fun r => r.1.length = n ∧ s = r.1 ++ r.2 :=
  copyN_eq_stream n s ▸ Oryx.copyN_sat n s

theorem copyN_short {n : Nat} {s : Bytes} (h : s.length < n) : copyN n s = err .eof := by
  unfold copyN; rw [if_neg (by omega)]

theorem copyN_err {n : Nat} {s : Bytes} {k : EK} (h : copyN n s = err k) : k = .eof ∧ s.length < n := by
  unfold copyN at h
  split at h
  · simp at h
  · simp only [err.injEq] at h; exact ⟨h.symm, by omega⟩

theorem copyN_take (n k : Nat) (s : Bytes) :
    copyN n (s.take k) =
      if n ≤ k ∧ n ≤ s.length then ok (s.take n, (s.drop n).take (k - n)) else err .eof := by
  unfold copyN
  by_cases h : n ≤ k ∧ n ≤ s.length
  · rw [if_pos h, if_pos (by simp; omega)]
    simp only [List.take_take, List.drop_take, Nat.min_eq_left h.1]
  · rw [if_neg h, if_neg (by simp; omega)]

@[simp] theorem tagHeader_length (ty : UInt8) (ts size : Nat) : (tagHeader ty ts size).length = 11 := by
  simp [tagHeader]

@[simp] theorem prevTagSize_length (size : Nat) : (prevTagSize size).length = 4 := by
  simp [prevTagSize]

@[simp] theorem writeTag_length (t : Tag) : (writeTag t).length = 15 + t.body.length := by
  simp [writeTag]; omega

@[simp] theorem writeHeader_length (hv ha : Bool) : (writeHeader hv ha).length = 13 := by
  simp [writeHeader]

/-- Domain of the property for one tag: body below 2^24 bytes, timestamp a `uint32`. -/
def Tag.WF (t : Tag) : Prop := t.body.length < 16777216 ∧ t.ts < 4294967296

instance (t : Tag) : Decidable t.WF := by unfold Tag.WF; exact inferInstance

theorem readHeader_short {s : Bytes} (h : s.length < 13) : readHeader s = err .eof := by
  unfold readHeader; rw [copyN_short h]; rfl

theorem readHeader_sat (s : Bytes) : (readHeader s).Sat fun a => ∃ p, p.length = 13 ∧ s = p ++ a.2 := by
  unfold readHeader
  refine Sat.bind (copyN_sat 13 s) fun (p, rest) ⟨(hl : p.length = 13), hs⟩ => ?_
  -- the buffer has 13 bytes, so `p[:3]`, `p[3]` and `p[4]` are in range
  simp only [sliceTo_of_le (show 3 ≤ p.length by omega), bind_ok]
  refine sat_ite (fun _ => sat_err) fun _ => ?_
  exact Sat.bind (idx_sat p 3 (by omega)) fun _ _ => Sat.bind (idx_sat p 4 (by omega)) fun _ _ => sat_ok ⟨p, hl, hs⟩

theorem flags_decode (hv ha : Bool) :
    ((flagsByte hv ha &&& 0x01) == 0x01) = hv ∧ (((flagsByte hv ha >>> 2) &&& 0x01) == 0x01) = ha := by
  cases hv <;> cases ha <;> decide

theorem readHeader_writeHeader (hv ha : Bool) (rest : Bytes) :
    readHeader (writeHeader hv ha ++ rest) = ok ({ version := 1, hasVideo := hv, hasAudio := ha }, rest) := by
  obtain ⟨h1, h2⟩ := flags_decode hv ha
  unfold readHeader
  rw [copyN_append _ _ (writeHeader_length hv ha)]
  simp [writeHeader, sliceTo_of_le, idx, h1, h2]

theorem readTagHeader_short {s : Bytes} (h : s.length < 11) : readTagHeader s = err .eof := by
  unfold readTagHeader; rw [copyN_short h]; rfl

theorem readTagHeader_cons (b0 b1 b2 b3 b4 b5 b6 b7 b8 b9 b10 : UInt8) (r : Bytes) :
    readTagHeader (b0 :: b1 :: b2 :: b3 :: b4 :: b5 :: b6 :: b7 :: b8 :: b9 :: b10 :: r) =
      ok ({ ty := b0, size := ofBE [b1, b2, b3], ts := b7.toNat * 16777216 + ofBE [b4, b5, b6] }, r) := by
  have e := copyN_append [b0, b1, b2, b3, b4, b5, b6, b7, b8, b9, b10] r (n := 11) rfl
  simp only [List.cons_append, List.nil_append] at e
  unfold readTagHeader
  rw [e]
  rfl

theorem readTagHeader_sat (s : Bytes) : (readTagHeader s).Sat fun a =>
    ∃ p, p.length = 11 ∧ s = p ++ a.2 ∧ ∀ x, readTagHeader (p ++ x) = ok (a.1, x) := by
  match s with
  | b0 :: b1 :: b2 :: b3 :: b4 :: b5 :: b6 :: b7 :: b8 :: b9 :: b10 :: r =>
    rw [readTagHeader_cons]
    exact sat_ok ⟨[b0, b1, b2, b3, b4, b5, b6, b7, b8, b9, b10], rfl, rfl, fun x => readTagHeader_cons ..⟩
  | [] | [_] | [_, _] | [_, _, _] | [_, _, _, _] | [_, _, _, _, _] | [_, _, _, _, _, _] | [_, _, _, _, _, _, _]
  | [_, _, _, _, _, _, _, _] | [_, _, _, _, _, _, _, _, _] | [_, _, _, _, _, _, _, _, _, _] => exact sat_err

theorem readTagHeader_tagHeader (ty : UInt8) (ts size : Nat) (rest : Bytes)
    (hs : size < 16777216) (ht : ts < 4294967296) :
    readTagHeader (tagHeader ty ts size ++ rest) = ok ({ ty := ty, size := size, ts := ts }, rest) := by
  have e1 : ofBE (be 3 size) = size := ofBE_be_of_lt (by simpa using hs)
  have e2 : ofBE (be 3 ts) = ts % 16777216 := ofBE_be 3 ts
  have e3 : (UInt8.ofNat (ts / 16777216)).toNat = ts / 16777216 :=
    UInt8.toNat_ofNat_of_lt' (show _ < 256 by omega)
  rw [be_three] at e1 e2
  simp only [tagHeader, be_three, List.cons_append, List.nil_append, readTagHeader_cons, e1, e2, e3]
  congr 3
  omega

/-- Closed form: the `len(p) < 4` panic branch is dead for every size, `size + 4` being an `int64` sum since
fix F20. -/
theorem readTag_eq (n : Nat) (s : Bytes) :
    readTag n s = if n + 4 ≤ s.length then ok (s.take n, s.drop (n + 4)) else err .eof := by
  unfold readTag copyN
  split
  · have hl : (s.take (n + 4)).length = n + 4 := by simp; omega
    simp only [bind_ok, hl, if_neg (show ¬ n + 4 < 4 by omega), Nat.add_sub_cancel, List.take_take,
      Nat.min_eq_left (Nat.le_add_right n 4), pure_eq]
  · rfl

theorem readTag_short {n : Nat} {s : Bytes} (h : s.length < n + 4) : readTag n s = err .eof := by
  rw [readTag_eq, if_neg (by omega)]

theorem readTag_ne_panic (size : Nat) (s : Bytes) : readTag size s ≠ .panic := by
  rw [readTag_eq]; split <;> simp

theorem readTag_append {n : Nat} (q x : Bytes) (h : q.length = n + 4) :
    readTag n (q ++ x) = ok (q.take n, x) := by
  rw [readTag_eq, if_pos (by simp; omega), drop_append_len _ _ h, List.take_append_of_le_length (by omega)]

theorem readTag_body (body : Bytes) (rest : Bytes) :
    readTag body.length (body ++ prevTagSize body.length ++ rest) = ok (body, rest) := by
  rw [readTag_append _ _ (by simp), take_append_len _ _ rfl]

theorem readTag_sat (n : Nat) (s : Bytes) : (readTag n s).Sat fun a =>
    ∃ q, q.length = n + 4 ∧ s = q ++ a.2 ∧ ∀ x, readTag n (q ++ x) = ok (a.1, x) := by
  rw [readTag_eq]
  refine sat_ite (fun hl => sat_ok ?_) fun _ => sat_err
  have hq : (s.take (n + 4)).length = n + 4 := by simp; omega
  refine ⟨s.take (n + 4), hq, (List.take_append_drop _ s).symm, fun x => ?_⟩
  rw [readTag_append _ _ hq, List.take_take, Nat.min_eq_left (Nat.le_add_right n 4)]

theorem readTagFull_short {s : Bytes} (h : s.length < 11) : readTagFull s = err .eof := by
  unfold readTagFull; rw [readTagHeader_short h]; rfl

/-- Behind a tag header the step is `ReadTag` of the announced size: the round trip and the cut differ only in
what that finds. -/
theorem readTagFull_tagHeader (ty : UInt8) (ts size : Nat) (r : Bytes)
    (hs : size < 16777216) (ht : ts < 4294967296) :
    readTagFull (tagHeader ty ts size ++ r) =
      readTag size r >>= fun x => ok ({ ty := ty, ts := ts, body := x.1 }, x.2) := by
  unfold readTagFull
  rw [readTagHeader_tagHeader _ _ _ _ hs ht]
  rfl

theorem readTagFull_writeTag (t : Tag) (rest : Bytes) (h : t.WF) :
    readTagFull (writeTag t ++ rest) = ok (t, rest) := by
  unfold writeTag
  rw [List.append_assoc, List.append_assoc, readTagFull_tagHeader _ _ _ _ h.1 h.2, ← List.append_assoc,
    readTag_body]
  rfl

theorem readTagFull_sat (s : Bytes) : (readTagFull s).Sat fun a =>
    ∃ p, 15 ≤ p.length ∧ s = p ++ a.2 ∧ ∀ x, readTagFull (p ++ x) = ok (a.1, x) := by
  rw [readTagFull]
  refine Sat.bind (readTagHeader_sat s) fun ⟨hd, s1⟩ ⟨p, hp, e1, f1⟩ => ?_
  refine Sat.bind (readTag_sat hd.size s1) fun ⟨b, s2⟩ ⟨q, hq, e2, f2⟩ => sat_ok ?_
  refine ⟨p ++ q, by simp; omega, by rw [e1, e2, List.append_assoc], fun x => ?_⟩
  rw [readTagFull, List.append_assoc, f1]
  simp only [bind_ok, f2]
  rfl

theorem readTagFull_frame {s r : Bytes} {t : Tag} (x : Bytes) (h : readTagFull s = ok (t, r)) :
    readTagFull (s ++ x) = ok (t, r ++ x) := by
  obtain ⟨p, -, rfl, f⟩ := (readTagFull_sat s).of_ok h
  rw [List.append_assoc, f]

/-- Fuel `> |s|` is never exhausted (a successful step consumes at least 15 bytes) and no step panics: the
loop always stops with an error class. -/
theorem readTags_stop_ne_panic : ∀ fuel (s : Bytes), s.length < fuel → (readTags fuel s).2 ≠ .panic := by
  intro fuel
  induction fuel with
  | zero => intro s h; simp at h
  | succ f ih =>
    intro s hs
    unfold readTags
    split
    · rename_i t rest heq
      obtain ⟨p, hp, rfl, -⟩ := (readTagFull_sat s).of_ok heq
      exact ih rest (by simp at hs; omega)
    · simp
    · rename_i heq; exact absurd heq (readTagFull_sat s).ne_panic

theorem demux_sat (s : Bytes) : (demux s).Sat fun a => a.2.2 ≠ .panic := by
  unfold demux
  refine Sat.bind (readHeader_sat s) fun ⟨h, rest⟩ _ => sat_ok ?_
  exact readTags_stop_ne_panic (rest.length + 1) rest (Nat.lt_succ_self _)

/-- A model tag seen as a tag of the standard. -/
def Tag.toSpec (t : Tag) : Spec.Flv.Tag := { tagType := t.ty.toNat, timestamp := t.ts, data := t.body }

/-- A tag of the standard as the library's API takes it. -/
def Tag.ofSpec (t : Spec.Flv.Tag) : Tag := { ty := UInt8.ofNat t.tagType, ts := t.timestamp, body := t.data }

theorem Tag.toSpec_wf {t : Tag} (h : t.WF) : t.toSpec.WF :=
  ⟨UInt8.toNat_lt t.ty, h.2, h.1⟩

theorem Tag.ofSpec_wf {t : Spec.Flv.Tag} (h : t.WF) : (Tag.ofSpec t).WF := ⟨h.2.2, h.2.1⟩

theorem Tag.toSpec_ofSpec {t : Spec.Flv.Tag} (h : t.WF) : (Tag.ofSpec t).toSpec = t := by
  cases t with
  | mk ty ts d => simp [Tag.ofSpec, Tag.toSpec, UInt8.toNat_ofNat_of_lt' (show ty < UInt8.size from h.1)]

theorem ui24_eq_be (v : Nat) : Spec.Flv.ui24 v = be 3 v := by
  rw [be_three]; simp only [Spec.Flv.ui24, ← UInt8.ofNat_mod_size (x := v / 256), ← UInt8.ofNat_mod_size (x := v)]

theorem ui24_mod_eq_be (v : Nat) : Spec.Flv.ui24 (v % 16777216) = be 3 v := by
  rw [ui24_eq_be]; exact be_mod 3 v

theorem ui32_eq_be (v : Nat) : Spec.Flv.ui32 v = be 4 v := by
  rw [be_four]
  simp only [Spec.Flv.ui32, ← UInt8.ofNat_mod_size (x := v / 65536), ← UInt8.ofNat_mod_size (x := v / 256),
    ← UInt8.ofNat_mod_size (x := v)]

theorem writeHeader_is_spec (hv ha : Bool) :
    writeHeader hv ha = Spec.Flv.header ha hv ++ Spec.Flv.ui32 0 := by
  cases hv <;> cases ha <;> decide

theorem writeTag_is_spec (t : Tag) :
    writeTag t = Spec.Flv.tag t.toSpec ++ Spec.Flv.ui32 (11 + t.body.length) := by
  have sid : Spec.Flv.ui24 0 = [0, 0, 0] := rfl
  -- the timestamp's low 24 bits first: `ui24_eq_be` alone would keep the `%`
  simp only [writeTag, tagHeader, prevTagSize, Spec.Flv.tag, Tag.toSpec, ui24_mod_eq_be, sid]
  simp only [ui24_eq_be, ui32_eq_be, Spec.Flv.ui8, UInt8.ofNat_toNat, List.cons_append, List.nil_append,
    List.append_assoc]

theorem writeTags_is_spec (tags : List Tag) :
    writeTags tags = Spec.Flv.body (tags.map Tag.toSpec) := by
  induction tags with
  | nil => rfl
  | cons t ts ih => simp [writeTags, Spec.Flv.body, writeTag_is_spec, ih, Tag.toSpec]

/-- No `WF` hypothesis: both sides reduce out-of-range values the same way (the standard only gives meaning to
the `WF` ones). -/
theorem mux_eq_spec (hv ha : Bool) (tags : List Tag) :
    mux hv ha tags = Spec.Flv.file ha hv (tags.map Tag.toSpec) := by
  simp [mux, Spec.Flv.file, writeHeader_is_spec, writeTags_is_spec]

theorem readTagFull_cut (t : Tag) (h : t.WF) (k : Nat) (hk : k < 15 + t.body.length) :
    readTagFull ((writeTag t).take k) = err .eof := by
  by_cases h11 : k < 11
  · exact readTagFull_short (by simp; omega)
  · unfold writeTag
    rw [List.append_assoc, List.take_append, tagHeader_length, List.take_of_length_le (by simp; omega),
      readTagFull_tagHeader _ _ _ _ h.1 h.2, readTag_short (by simp; omega)]
    rfl

/-- The tags lying wholly inside the first `k` bytes of `writeTags tags`, in order. -/
def wholeTags : Nat → List Tag → List Tag
  | _, [] => []
  | k, t :: ts => if 15 + t.body.length ≤ k then t :: wholeTags (k - (15 + t.body.length)) ts else []

theorem wholeTags_prefix : ∀ (k : Nat) (tags : List Tag), wholeTags k tags <+: tags
  | _, [] => by simp [wholeTags]
  | k, t :: ts => by
    unfold wholeTags
    split
    · exact (List.prefix_cons_inj t).mpr (wholeTags_prefix _ ts)
    · exact List.nil_prefix

theorem wholeTags_of_le : ∀ (tags : List Tag) (k : Nat), (writeTags tags).length ≤ k → wholeTags k tags = tags
  | [], _, _ => rfl
  | t :: ts, k, h => by
    simp only [writeTags, List.length_append, writeTag_length] at h
    rw [wholeTags, if_pos (by omega), wholeTags_of_le ts _ (by omega)]

theorem readTags_cut (tags : List Tag) (hwf : ∀ t ∈ tags, t.WF) :
    ∀ k fuel, ((writeTags tags).take k).length < fuel →
      readTags fuel ((writeTags tags).take k) = (wholeTags k tags, .err .eof) := by
  induction tags with
  | nil =>
    intro k fuel hf
    cases fuel with
    | zero => simp at hf
    | succ f => simp [writeTags, readTags, readTagFull_short, wholeTags]
  | cons t ts ih =>
    intro k fuel hf
    cases fuel with
    | zero => simp at hf
    | succ f =>
      have ht := hwf t (by simp)
      simp only [writeTags, List.take_append, writeTag_length] at hf ⊢
      by_cases hk : 15 + t.body.length ≤ k
      · rw [List.take_of_length_le (by simp; omega)] at hf ⊢
        simp only [List.length_append, writeTag_length] at hf
        simp only [readTags, readTagFull_writeTag t _ ht, wholeTags, if_pos hk]
        rw [ih (fun x hx => hwf x (by simp [hx])) _ f (by omega)]
      · rw [show k - (15 + t.body.length) = 0 by omega, List.take_zero, List.append_nil]
        simp only [readTags, readTagFull_cut t ht k (by omega), wholeTags, if_neg hk]

theorem demux_cut (hv ha : Bool) (tags : List Tag) (hwf : ∀ t ∈ tags, t.WF) (k : Nat) :
    demux ((mux hv ha tags).take k) =
      if k < 13 then err .eof
      else ok ({ version := 1, hasVideo := hv, hasAudio := ha }, wholeTags (k - 13) tags, .err .eof) := by
  unfold demux mux
  by_cases hk : k < 13
  · rw [if_pos hk, readHeader_short (by simp; omega)]; rfl
  · rw [if_neg hk, List.take_append, writeHeader_length, List.take_of_length_le (by simp; omega),
      readHeader_writeHeader]
    simp only [bind_ok, pure_eq]
    rw [readTags_cut tags hwf _ _ (Nat.lt_succ_self _)]

theorem demux_mux_ok (hv ha : Bool) (tags : List Tag) (hwf : ∀ t ∈ tags, t.WF) :
    demux (mux hv ha tags) = ok ({ version := 1, hasVideo := hv, hasAudio := ha }, tags, .err .eof) := by
  have hl : (mux hv ha tags).length = 13 + (writeTags tags).length := by simp [mux]
  have := demux_cut hv ha tags hwf (mux hv ha tags).length
  rwa [List.take_length, if_neg (by omega), wholeTags_of_le _ _ (by omega)] at this

end Oryx.Flv
