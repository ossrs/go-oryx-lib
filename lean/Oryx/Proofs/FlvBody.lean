/-
  Lemmas for C10 (FLV audio/video tag bodies); the property statements are in Oryx/Props/C10.lean.
  The packed header byte is settled by exhaustive sweeps over its sub-byte fields (`forall_u8`, `forall_u8_lt`);
  trait byte, rate byte, level, composition time and the raw payload stay universally quantified.
  `decodeAudio` is characterised once, branch by branch; its Opus branch is two optional fields in sequence
  (`optRate`, `optLevel`), each with its own round trip, so only `decodeAudio_opus` splits on the trait flags.
-/
import Oryx.Proofs.Flv
namespace Oryx.Flv
open Oryx Oryx.Res

/-- Audio: fields within their bit widths; side fields zero unless something on the wire carries them
(AAC: trait byte; Opus: trait byte, rate byte iff trait has SR, 16-bit level iff trait has AL; every other
format: header byte only). For Opus WITH the SR flag the rate is a whole byte (so 8/12/16/24/48 fit). -/
def AudioFrame.Canonical (f : AudioFrame) : Prop :=
  f.fmt < 16 ∧ f.size < 2 ∧ f.chan < 2 ∧ f.level < 65536 ∧
  (if f.fmt = codecAAC then f.rate < 4 ∧ f.level = 0
   else if f.fmt = codecOpus then
     (f.trait &&& traitOpusSR = traitOpusSR ∨ f.rate = 0) ∧ (f.trait &&& traitOpusAL = traitOpusAL ∨ f.level = 0)
   else f.rate < 4 ∧ f.trait = 0 ∧ f.level = 0)

instance (f : AudioFrame) : Decidable f.Canonical := by unfold AudioFrame.Canonical; exact inferInstance

/-- Video: 4-bit frame type and codec id; AVC/HEVC carry a trait byte and a 24-bit composition time,
every other codec carries neither. -/
def VideoFrame.Canonical (f : VideoFrame) : Prop :=
  f.frameType < 16 ∧ f.codec < 16 ∧
  (if hasCts f.codec then f.cts < 16777216 else f.trait = 0 ∧ f.cts = 0)

instance (f : VideoFrame) : Decidable f.Canonical := by unfold VideoFrame.Canonical; exact inferInstance

/-- Canonical audio tag body: in an Opus body the two (unused) rate bits of the first byte are zero.
Every other accepted body is canonical. -/
def CanonicalAudioTag : Bytes → Prop
  | [] => True
  | b :: _ => (b >>> 4) &&& 0x0f = codecOpus → b &&& 0x0c = 0

instance (t : Bytes) : Decidable (CanonicalAudioTag t) := by
  cases t <;> unfold CanonicalAudioTag <;> exact inferInstance

theorem audio_bits : ∀ f : UInt8, f < 16 → ∀ r : UInt8, r < 4 → ∀ s : UInt8, s < 2 → ∀ c : UInt8, c < 2 →
    let b := (f <<< 4) ||| ((r &&& 0x03) <<< 2) ||| (s <<< 1) ||| c
    (b >>> 4) &&& 0x0f = f ∧ (b >>> 2) &&& 0x03 = r ∧ (b >>> 1) &&& 0x01 = s ∧ b &&& 0x01 = c ∧
    b = UInt8.ofNat (Spec.Flv.audioByte f.toNat r.toNat s.toNat c.toNat) := by
  refine forall_u8_lt 16 fun i => forall_u8_lt 4 fun j => forall_u8_lt 2 fun k => forall_u8_lt 2 fun l => ?_
  revert i j k l
  decide +kernel

theorem and3_lt (r : UInt8) : r &&& 0x03 < 4 :=
  UInt8.lt_of_le_of_lt UInt8.and_le_right (by decide)

theorem and3_id : ∀ r : UInt8, r < 4 → r &&& 0x03 = r := by
  refine forall_u8_lt 4 ?_; decide +kernel

theorem opus_bits : ∀ r : UInt8, r < 4 → ∀ s : UInt8, s < 2 → ∀ c : UInt8, c < 2 →
    let b := (((13 : UInt8) <<< 4) ||| (r <<< 2) ||| (s <<< 1) ||| c) &&& 0xf3
    (b >>> 4) &&& 0x0f = 13 ∧ (b >>> 2) &&& 0x03 = 0 ∧ (b >>> 1) &&& 0x01 = s ∧ b &&& 0x01 = c ∧
    b = UInt8.ofNat (Spec.Flv.audioByte 13 0 s.toNat c.toNat) := by
  refine forall_u8_lt 4 fun j => forall_u8_lt 2 fun k => forall_u8_lt 2 fun l => ?_
  revert j k l
  decide +kernel

theorem audio_bits_repack : ∀ b : UInt8,
    ((((b >>> 4) &&& 0x0f) <<< 4) ||| ((((b >>> 2) &&& 0x03) &&& 0x03) <<< 2) |||
      (((b >>> 1) &&& 0x01) <<< 1) ||| (b &&& 0x01)) = b := by
  apply forall_u8; decide +kernel

theorem opus_bits_repack : ∀ b r : UInt8, r < 4 → (b >>> 4) &&& 0x0f = 13 → b &&& 0x0c = 0 →
    ((((b >>> 4) &&& 0x0f) <<< 4) ||| (r <<< 2) ||| (((b >>> 1) &&& 0x01) <<< 1) ||| (b &&& 0x01)) &&& 0xf3 = b := by
  refine forall_u8 fun i => forall_u8_lt 4 fun j => ?_
  revert i j
  decide +kernel

theorem video_bits : ∀ ft : UInt8, ft < 16 → ∀ c : UInt8, c < 16 →
    let b := (ft <<< 4) ||| c
    (b >>> 4) &&& 0x0f = ft ∧ b &&& 0x0f = c ∧ b = UInt8.ofNat (Spec.Flv.videoByte ft.toNat c.toNat) := by
  refine forall_u8_lt 16 fun i => forall_u8_lt 16 fun j => ?_
  revert i j
  decide +kernel

theorem video_bits_repack : ∀ b : UInt8,
    ((((b >>> 4) &&& 0x0f) <<< 4) ||| (b &&& 0x0f)) = b ∧ (b >>> 4) &&& 0x0f < 16 ∧ b &&& 0x0f < 16 := by
  apply forall_u8; decide +kernel

theorem audioFirstByte_fields (f : AudioFrame) (h : f.Canonical) :
    (audioFirstByte f >>> 4) &&& 0x0f = f.fmt ∧
    (audioFirstByte f >>> 2) &&& 0x03 = (if f.fmt = codecOpus then 0 else f.rate) ∧
    (audioFirstByte f >>> 1) &&& 0x01 = f.size ∧ audioFirstByte f &&& 0x01 = f.chan ∧
    audioFirstByte f = UInt8.ofNat
      (Spec.Flv.audioByte f.fmt.toNat (if f.fmt = codecOpus then 0 else f.rate.toNat) f.size.toNat f.chan.toNat) := by
  obtain ⟨hf, hs, hc, -, hrest⟩ := h
  unfold audioFirstByte
  by_cases hO : f.fmt = codecOpus
  · simp only [hO, if_true]
    exact opus_bits _ (and3_lt f.rate) _ hs _ hc
  · have hr : f.rate < 4 := by split at hrest <;> exact hrest.1
    simp only [hO, if_false]
    exact audio_bits _ hf _ hr _ hs _ hc

theorem videoFirstByte_fields (f : VideoFrame) (h : f.Canonical) :
    (videoFirstByte f >>> 4) &&& 0x0f = f.frameType ∧ videoFirstByte f &&& 0x0f = f.codec ∧
    videoFirstByte f = UInt8.ofNat (Spec.Flv.videoByte f.frameType.toNat f.codec.toNat) :=
  video_bits _ h.1 _ h.2.1

theorem encodeAudio_head (f : AudioFrame) : (encodeAudio f).head? = some (audioFirstByte f) := by
  unfold encodeAudio
  split
  · rfl
  · split <;> rfl

theorem encodeVideo_head (f : VideoFrame) : (encodeVideo f).head? = some (videoFirstByte f) := by
  unfold encodeVideo
  split <;> rfl

/-- The Opus rate byte behind the trait byte, present iff the trait has the SR flag; `dflt` is the header
byte's rate field. -/
def optRate (tr dflt : UInt8) (p : Bytes) : Res (UInt8 × Bytes) :=
  if tr &&& traitOpusSR = traitOpusSR then
    match p with
    | [] => err .generic
    | r :: p => ok (r, p)
  else ok (dflt, p)

/-- The 16-bit Opus audio level behind it, present iff the trait has the AL flag. -/
def optLevel (tr : UInt8) (p : Bytes) : Res (Nat × Bytes) :=
  if tr &&& traitOpusAL = traitOpusAL then
    match p with
    | a :: b :: p => ok (ofBE [a, b], p)
    | _ => err .generic
  else ok (0, p)

theorem optRate_enc (tr dflt r : UInt8) (q : Bytes) :
    optRate tr dflt ((if tr &&& traitOpusSR = traitOpusSR then [r] else []) ++ q) =
      ok (if tr &&& traitOpusSR = traitOpusSR then r else dflt, q) := by
  unfold optRate; split <;> rfl

theorem optRate_sat (tr dflt : UInt8) (p : Bytes) : (optRate tr dflt p).Sat fun a =>
    (if tr &&& traitOpusSR = traitOpusSR then [a.1] else []) ++ a.2 = p := by
  unfold optRate
  split
  · cases p with
    | nil => exact sat_err
    | cons r p => exact sat_ok rfl
  · exact sat_ok rfl

theorem optLevel_enc (tr : UInt8) {l : Nat} (hl : l < 65536) (q : Bytes) :
    optLevel tr ((if tr &&& traitOpusAL = traitOpusAL then be 2 l else []) ++ q) =
      ok (if tr &&& traitOpusAL = traitOpusAL then l else 0, q) := by
  unfold optLevel; split
  · have e : ofBE (be 2 l) = l := ofBE_be_of_lt (by simpa using hl)
    rw [be_two] at e ⊢
    simp only [List.cons_append, List.nil_append, e]
  · rfl

theorem optLevel_sat (tr : UInt8) (p : Bytes) : (optLevel tr p).Sat fun a =>
    (if tr &&& traitOpusAL = traitOpusAL then be 2 a.1 else []) ++ a.2 = p := by
  unfold optLevel
  split
  · split
    · exact sat_ok (congrArg (· ++ _) (be_ofBE' (n := 2) rfl))
    · exact sat_err
  · exact sat_ok rfl

theorem decodeAudio_single {t : UInt8} (h : (t >>> 4) &&& 0x0f = codecAAC ∨ (t >>> 4) &&& 0x0f = codecOpus) :
    decodeAudio [t] = err .generic := by
  rcases h with h | h <;> simp [decodeAudio, h]

theorem decodeAudio_aac {t : UInt8} (h : (t >>> 4) &&& 0x0f = codecAAC) (tr : UInt8) (raw : Bytes) :
    decodeAudio (t :: tr :: raw) =
      ok { fmt := codecAAC, rate := (t >>> 2) &&& 0x03, size := (t >>> 1) &&& 0x01, chan := t &&& 0x01,
           trait := tr, level := 0, raw } := by
  simp only [decodeAudio, h, if_true]

theorem decodeAudio_opus {t : UInt8} (h : (t >>> 4) &&& 0x0f = codecOpus) (tr : UInt8) (p : Bytes) :
    decodeAudio (t :: tr :: p) =
      (optRate tr ((t >>> 2) &&& 0x03) p >>= fun x => optLevel tr x.2 >>= fun y =>
        ok { fmt := codecOpus, rate := x.1, size := (t >>> 1) &&& 0x01, chan := t &&& 0x01, trait := tr,
             level := y.1, raw := y.2 }) := by
  have hA : ¬ codecOpus = codecAAC := by decide
  simp only [decodeAudio, h, hA, if_true, if_false, optRate, optLevel]
  -- the model's `do` block carries its continuation inside every branch; `>>=` on the right does not
  by_cases sr : tr &&& traitOpusSR = traitOpusSR <;> by_cases al : tr &&& traitOpusAL = traitOpusAL <;>
    simp only [sr, al, if_true, if_false] <;> rcases p with _ | ⟨a, _ | ⟨b, _ | ⟨c, p⟩⟩⟩ <;> rfl

theorem decodeAudio_other {t : UInt8} (hA : (t >>> 4) &&& 0x0f ≠ codecAAC) (hO : (t >>> 4) &&& 0x0f ≠ codecOpus)
    (rest : Bytes) :
    decodeAudio (t :: rest) =
      ok { fmt := (t >>> 4) &&& 0x0f, rate := (t >>> 2) &&& 0x03, size := (t >>> 1) &&& 0x01, chan := t &&& 0x01,
           trait := 0, level := 0, raw := rest } := by
  simp only [decodeAudio, hA, hO, if_false]

theorem ite_eq_of_or {α : Type} {c : Prop} [Decidable c] {a d : α} (h : c ∨ a = d) : (if c then a else d) = a := by
  rcases h with h | rfl
  · exact if_pos h
  · exact ite_self a

theorem audio_rt (f : AudioFrame) (h : f.Canonical) : decodeAudio (encodeAudio f) = ok f := by
  obtain ⟨e1, e2, e3, e4, -⟩ := audioFirstByte_fields f h
  obtain ⟨-, -, -, hl, hrest⟩ := h
  obtain ⟨fmt, rate, size, chan, trait, level, raw⟩ := f
  simp only at e1 e2 e3 e4 hl hrest
  unfold encodeAudio
  split at hrest
  · rename_i hA
    have hO : ¬ fmt = codecOpus := by rw [hA]; decide
    rw [if_pos hA, decodeAudio_aac (e1.trans hA), e2, e3, e4, if_neg hO, hrest.2, hA]
  · rename_i hA
    split at hrest
    · rename_i hO
      rw [if_neg hA, if_pos hO, decodeAudio_opus (e1.trans hO), List.append_assoc, optRate_enc, bind_ok,
        optLevel_enc _ hl, bind_ok, e2, e3, e4, if_pos hO, hO]
      simp only [ite_eq_of_or hrest.1, ite_eq_of_or hrest.2]
    · rename_i hO
      rw [if_neg hA, if_neg hO, decodeAudio_other (by rwa [e1]) (by rwa [e1]), e1, e2, e3, e4, if_neg hO,
        hrest.2.1, hrest.2.2]

theorem decodeAudio_sat (t : Bytes) : (decodeAudio t).Sat fun f => CanonicalAudioTag t → encodeAudio f = t := by
  match t with
  | [] => exact sat_err
  | b :: rest =>
    have e := audio_bits_repack b
    by_cases hA : (b >>> 4) &&& 0x0f = codecAAC
    · have hO : ¬ codecAAC = codecOpus := by decide
      match rest with
      | [] => rw [decodeAudio_single (.inl hA)]; exact sat_err
      | tr :: raw =>
        rw [decodeAudio_aac hA]
        rw [hA] at e
        exact sat_ok fun _ => by simp only [encodeAudio, audioFirstByte, if_true, hO, if_false, e]
    · by_cases hO : (b >>> 4) &&& 0x0f = codecOpus
      · match rest with
        | [] => rw [decodeAudio_single (.inr hO)]; exact sat_err
        | tr :: p =>
          rw [decodeAudio_opus hO]
          refine Sat.bind (optRate_sat ..) fun ⟨r, p1⟩ h1 => Sat.bind (optLevel_sat ..) fun ⟨l, p2⟩ h2 =>
            sat_ok fun hc => ?_
          have hne : ¬ codecOpus = codecAAC := by decide
          have e' := opus_bits_repack b _ (and3_lt r) hO (hc hO)
          rw [hO] at e'
          simp only [encodeAudio, audioFirstByte, if_true, hne, if_false, e', List.append_assoc, h2, h1]
      · rw [decodeAudio_other hA hO]
        exact sat_ok fun _ => by simp only [encodeAudio, audioFirstByte, hA, hO, if_false, e]

theorem video_rt (f : VideoFrame) (h : f.Canonical) : decodeVideo (encodeVideo f) = ok f := by
  obtain ⟨codec, ft, trait, cts, raw⟩ := f
  obtain ⟨hf, hc, hrest⟩ := h
  obtain ⟨e1, e2, -⟩ := video_bits ft hf codec hc
  by_cases hk : hasCts codec = true
  · rw [if_pos hk] at hrest
    have e : ofBE (be 3 cts) = cts := ofBE_be_of_lt (by simpa using hrest)
    rw [be_three] at e
    simp only [encodeVideo, videoFirstByte, decodeVideo, hk, if_true, e1, e2, be_three, List.cons_append,
      List.nil_append, e]
  · rw [if_neg hk] at hrest
    obtain ⟨rfl, rfl⟩ := hrest
    simp only [encodeVideo, videoFirstByte, decodeVideo, if_neg hk, e1, e2]

theorem decodeVideo_sat (t : Bytes) : (decodeVideo t).Sat fun f => f.Canonical ∧ encodeVideo f = t := by
  match t with
  | [] => exact sat_err
  | b :: rest =>
    obtain ⟨e, h1, h2⟩ := video_bits_repack b
    unfold decodeVideo
    simp only
    split
    · rename_i hk
      split
      · rename_i tr c0 c1 c2 raw
        refine sat_ok ⟨⟨h1, h2, ?_⟩, ?_⟩
        · simpa [hk] using ofBE_lt [c0, c1, c2]
        · simp only [encodeVideo, videoFirstByte, hk, if_true, e, be_ofBE' (n := 3) (bs := [c0, c1, c2]) rfl,
            List.cons_append, List.nil_append]
      · exact sat_err
    · rename_i hk
      exact sat_ok ⟨⟨h1, h2, by simp [hk]⟩, by simp [encodeVideo, videoFirstByte, hk, e]⟩

theorem decodeVideo_eq_ok_iff {t : Bytes} {f : VideoFrame} :
    decodeVideo t = ok f ↔ f.Canonical ∧ encodeVideo f = t :=
  ⟨(decodeVideo_sat t).of_ok, fun ⟨hc, e⟩ => e ▸ video_rt f hc⟩

end Oryx.Flv
