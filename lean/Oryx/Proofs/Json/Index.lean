/-
  `bytes.Index` / `indexEnd`: a found occurrence lies inside the data and is found again, at the same place, in
  every extension of the data (the engine of segmentation freedom); where a marker is found in text free of it.
-/
import Oryx.Model.Json
namespace Oryx.Json
open Oryx

/-- The library's lemma at `UInt8`: `LawfulBEq UInt8` is found here once, not at every use. -/
theorem isPrefixOf_iff {f d : Bytes} : f.isPrefixOf d = true ↔ f <+: d := List.isPrefixOf_iff_prefix

theorem isPrefixOf_append {f d : Bytes} (h : f.length ≤ d.length) (x : Bytes) :
    f.isPrefixOf (d ++ x) = f.isPrefixOf d :=
  Bool.eq_iff_iff.mpr <| by
    rw [isPrefixOf_iff, isPrefixOf_iff]
    exact ⟨fun hp => List.prefix_of_prefix_length_le hp (List.prefix_append d x) h,
      fun hp => hp.trans (List.prefix_append d x)⟩

theorem index_cons (f : Bytes) (b : UInt8) (t : Bytes) :
    index f (b :: t) = if f.isPrefixOf (b :: t) then some 0 else (index f t).map (· + 1) := rfl

theorem index_eq_zero_iff {f d : Bytes} : index f d = some 0 ↔ f.isPrefixOf d = true := by
  cases d with
  | nil => cases f <;> simp [index]
  | cons b t => rw [index_cons]; split <;> simp [*]

theorem index_stable {f d : Bytes} {k : Nat} (h : index f d = some k) :
    k + f.length ≤ d.length ∧ ∀ x, index f (d ++ x) = some k := by
  induction d generalizing k with
  | nil =>
    obtain ⟨rfl, rfl⟩ : f = [] ∧ 0 = k := by simpa [index] using h
    exact ⟨Nat.le_refl _, fun x => by cases x <;> rfl⟩
  | cons b t ih =>
    rw [index_cons] at h
    split at h
    · next hp =>
      cases h
      have hl : f.length ≤ (b :: t).length := (isPrefixOf_iff.mp hp).length_le
      exact ⟨by omega, fun x => by rw [List.cons_append, index_cons, ← List.cons_append, isPrefixOf_append hl, if_pos hp]⟩
    · next hp =>
      obtain ⟨k', hk, rfl⟩ := Option.map_eq_some_iff.mp h
      obtain ⟨hb, hx⟩ := ih hk
      have hl : f.length ≤ (b :: t).length := by simp only [List.length_cons]; omega
      exact ⟨by simp only [List.length_cons]; omega, fun x => by
        rw [List.cons_append, index_cons, ← List.cons_append, isPrefixOf_append hl, if_neg hp, hx x]; rfl⟩

theorem indexEsc_cons (f : Bytes) (b : UInt8) (t : Bytes) :
    indexEsc f (b :: t) =
      if b = escByte then
        match t with
        | [] => none
        | _ :: t' => (indexEsc f t').map (· + 2)
      else if f.isPrefixOf (b :: t) then some 0
      else (indexEsc f t).map (· + 1) := by
  cases t <;> rfl

theorem indexEsc_stable {f d : Bytes} {k : Nat} (h : indexEsc f d = some k) :
    k + f.length ≤ d.length ∧ ∀ x, indexEsc f (d ++ x) = some k := by
  induction d using indexEsc.induct f generalizing k with
  | case1 => cases h
  | case2 => simp [indexEsc] at h
  | case3 c t ih =>
    rw [indexEsc_cons, if_pos rfl] at h
    obtain ⟨k', hk, rfl⟩ := Option.map_eq_some_iff.mp h
    obtain ⟨hb, hx⟩ := ih hk
    exact ⟨by simp only [List.length_cons]; omega, fun x => by
      rw [List.cons_append, List.cons_append, indexEsc_cons, if_pos rfl]; simp only [hx x]; rfl⟩
  | case4 b t hb hp =>
    rw [indexEsc_cons, if_neg hb, if_pos hp] at h
    cases h
    have hl : f.length ≤ (b :: t).length := (isPrefixOf_iff.mp hp).length_le
    exact ⟨by omega, fun x => by
      rw [List.cons_append, indexEsc_cons, if_neg hb, ← List.cons_append, isPrefixOf_append hl, if_pos hp]⟩
  | case5 b t hb hp ih =>
    rw [indexEsc_cons, if_neg hb, if_neg hp] at h
    obtain ⟨k', hk, rfl⟩ := Option.map_eq_some_iff.mp h
    obtain ⟨hbd, hx⟩ := ih hk
    have hl : f.length ≤ (b :: t).length := by simp only [List.length_cons]; omega
    exact ⟨by simp only [List.length_cons]; omega, fun x => by
      rw [List.cons_append, indexEsc_cons, if_neg hb, ← List.cons_append, isPrefixOf_append hl, if_neg hp, hx x]; rfl⟩

theorem indexEnd_true (d f : Bytes) : indexEnd d f true = indexEsc f d := rfl

theorem indexEnd_false (d f : Bytes) : indexEnd d f false = index f d := rfl

theorem indexEnd_stable {d f : Bytes} {esc : Bool} {k : Nat} (h : indexEnd d f esc = some k) :
    k + f.length ≤ d.length ∧ ∀ x, indexEnd (d ++ x) f esc = some k := by
  cases esc
  · exact index_stable h
  · exact indexEsc_stable h

theorem isPrefixOf_singleton_of_ne {a b : UInt8} (h : b ≠ a) (t : Bytes) : List.isPrefixOf [a] (b :: t) = false := by
  simp [List.isPrefixOf, Ne.symm h]

theorem index_singleton_none {a : UInt8} : ∀ {c : Bytes}, (∀ b ∈ c, b ≠ a) → index [a] c = none
  | [], _ => rfl
  | b :: t, h => by
    rw [index_cons, isPrefixOf_singleton_of_ne (h b List.mem_cons_self),
      index_singleton_none fun x hx => h x (List.mem_cons_of_mem _ hx)]; rfl

theorem index_singleton_append {a : UInt8} : ∀ {c : Bytes}, (∀ b ∈ c, b ≠ a) → ∀ R,
    index [a] (c ++ a :: R) = some c.length
  | [], _, R => by rw [List.nil_append, index_cons]; simp [List.isPrefixOf]
  | b :: t, h, R => by
    rw [List.cons_append, index_cons, isPrefixOf_singleton_of_ne (h b List.mem_cons_self),
      index_singleton_append (fun x hx => h x (List.mem_cons_of_mem _ hx)) R]; rfl

/-- The text may end in `*`: the `*/` found is still the closing one. -/
theorem index_blockEnd_append : ∀ (c : Bytes), index [42, 47] c = none → ∀ R,
    index [42, 47] (c ++ 42 :: 47 :: R) = some c.length
  | [], _, R => by simp [index]
  | b :: t, h, R => by
    rw [index_cons] at h
    split at h
    · cases h
    next hp =>
      have ht : index [42, 47] t = none := by
        cases hi : index [42, 47] t with
        | none => rfl
        | some k => rw [hi] at h; cases h
      have hnp : List.isPrefixOf [42, 47] (b :: (t ++ 42 :: 47 :: R)) = false := by
        cases t with
        | nil => simp [List.isPrefixOf]
        | cons c t' =>
          rw [show b :: (c :: t' ++ 42 :: 47 :: R) = (b :: c :: t') ++ 42 :: 47 :: R from rfl,
            isPrefixOf_append (Nat.le_add_left 2 _)]
          exact Bool.eq_false_iff.mpr hp
      rw [List.cons_append, index_cons, hnp, index_blockEnd_append t ht R]; rfl

end Oryx.Json
