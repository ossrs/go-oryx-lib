/-
  The split function unfolded once, for any tables; the EOF loop without its fuel (`strip`); and the chunked Scanner
  loop equals the one-shot EOF loop for all tables that are `Tables.Stable`.
-/
import Oryx.Proofs.Json.First
namespace Oryx.Json
open Oryx

/-- What the tables need for the Scanner not to depend on how the input is cut into reads, and to keep moving:
`StableFlags` start markers, none of them empty. The other three tables are not constrained. -/
structure Tables.Stable (T : Tables) : Prop where
  flags : StableFlags T.starts
  nonempty : ∀ f ∈ T.starts, f ≠ []

theorem jsonPlus_stable : jsonPlus.Stable := ⟨by unfold StableFlags; decide, by decide⟩

theorem split_false_ne_fail (T : Tables) (d : Bytes) : split T d false ≠ .fail := by
  unfold split
  simp only [Bool.false_and, Bool.false_eq_true, if_false]
  split
  · nofun
  · split <;> nofun

theorem split_of_none {T : Tables} {d : Bytes} (hd : d ≠ []) (hfm : firstMatch d T.starts = none) (e : Bool) :
    split T d e = if e then .token d.length d else .more := by
  simp only [split, List.isEmpty_eq_false_iff.mpr hd, Bool.and_false, Bool.false_eq_true, if_false, hfm]

theorem split_of_firstMatch {T : Tables} {d s en : Bytes} {c : Bool} {p i : Nat} (hd : d ≠ [])
    (hfm : firstMatch d T.starts = some (p, i))
    (hs : T.starts[i]?.getD [] = s) (he : T.ends[i]?.getD [] = en) (hc : T.isComment[i]?.getD false = c)
    (hb : p + s.length ≤ d.length) (e : Bool) :
    split T d e =
      match indexEnd (d.drop (p + s.length)) en (!c) with
      | some k => .token (p + s.length + k + en.length) (if c then d.take p else d.take (p + s.length + k + en.length))
      | none =>
        if e then if T.required[i]?.getD false then .fail else .token d.length (if c then d.take p else d)
        else .more := by
  -- Go computes the advance of a region left open at EOF in `int`s: it is the length of the data
  have hadv : ∀ a l n : Nat, Int.toNat ((a : Int) + ((l : Int) - (n : Int)) + (n : Int)) = a + l := by omega
  simp only [split, List.isEmpty_eq_false_iff.mpr hd, Bool.and_false, Bool.false_eq_true, if_false, hfm, hs, he, hc, hadv,
    List.length_drop, Nat.add_sub_cancel' hb, List.take_length]
  cases indexEnd (d.drop (p + s.length)) en (!c) <;> rfl

/-- No start marker is empty, so on no data the split function asks for more, before EOF as well: the Scanner's own test
for an empty buffer (`scan`) changes nothing. -/
theorem split_nil {T : Tables} (hT : T.Stable) (e : Bool) : split T [] e = .more := by
  have hfm : firstMatch [] T.starts = none := firstMatch_nil <| List.findIdx?_eq_none_iff.mpr fun f hf => by
    cases f with
    | nil => exact absurd rfl (hT.nonempty [] hf)
    | cons => rfl
  cases e
  · simp only [split, hfm, Bool.false_and, Bool.false_eq_true, if_false]
  · rfl

theorem firstMatch_start_bounds {T : Tables} (hT : T.Stable) {d : Bytes} {p i : Nat} (h : firstMatch d T.starts = some (p, i)) :
    0 < (T.starts[i]?.getD []).length ∧ p + (T.starts[i]?.getD []).length ≤ d.length := by
  obtain ⟨⟨f, hf, hm, hb⟩, -⟩ := firstMatch_stable hT.flags h
  rw [hf]
  exact ⟨List.length_pos_iff.mpr (hT.nonempty f hm), hb⟩

theorem split_stable {T : Tables} (hT : T.Stable) {d : Bytes} {adv : Nat} {tok : Bytes}
    (h : split T d false = .token adv tok) (x : Bytes) (e : Bool) :
    split T (d ++ x) e = .token adv tok ∧ 0 < adv ∧ adv ≤ d.length := by
  have hd : d ≠ [] := by rintro rfl; rw [split_nil hT] at h; cases h
  cases hfm : firstMatch d T.starts with
  | none => rw [split_of_none hd hfm] at h; cases h
  | some r =>
    obtain ⟨p, i⟩ := r
    obtain ⟨hpos, hb⟩ := firstMatch_start_bounds hT hfm
    generalize hs : T.starts[i]?.getD [] = s at hpos hb
    generalize he : T.ends[i]?.getD [] = en
    rw [split_of_firstMatch hd hfm hs he rfl hb] at h
    split at h
    next k hend =>
      cases h
      obtain ⟨hk, hkx⟩ := indexEnd_stable hend
      rw [List.length_drop] at hk
      have hadv : p + s.length + k + en.length ≤ d.length := by omega
      refine ⟨?_, by omega, hadv⟩
      have hbx : p + s.length ≤ (d ++ x).length := Nat.le_trans hb (List.length_append ▸ Nat.le_add_right ..)
      rw [split_of_firstMatch (by simp [hd]) ((firstMatch_stable hT.flags hfm).2 x) hs he rfl hbx,
        List.drop_append_of_le_length hb, hkx x]
      dsimp only
      rw [List.take_append_of_le_length hadv, List.take_append_of_le_length (Nat.le_trans (Nat.le_add_right ..) hb)]
    · cases h

theorem split_eof_adv_pos {T : Tables} (hT : T.Stable) {d tok : Bytes} {adv : Nat} (h : split T d true = .token adv tok) : 0 < adv := by
  have hd : d ≠ [] := by rintro rfl; cases h
  have hl : 0 < d.length := List.length_pos_iff.mpr hd
  cases hfm : firstMatch d T.starts with
  | none => rw [split_of_none hd hfm] at h; cases h; exact hl
  | some r =>
    obtain ⟨p, i⟩ := r
    obtain ⟨hpos, hb⟩ := firstMatch_start_bounds hT hfm
    rw [split_of_firstMatch hd hfm rfl rfl rfl hb] at h
    split at h
    · cases h; omega
    · by_cases hr : T.required[i]?.getD false = true
      · rw [if_pos rfl, if_pos hr] at h; cases h
      · rw [if_pos rfl, if_neg hr] at h; cases h; exact hl

theorem drop_token_lt {T : Tables} {d tok : Bytes} {adv : Nat} (h : split T d true = .token adv tok) (ha : 0 < adv) :
    (d.drop adv).length < d.length := by
  have hd : 0 < d.length := List.length_pos_iff.mpr (by rintro rfl; cases h)
  rw [List.length_drop]; exact Nat.sub_lt hd ha

theorem scanEOF_fuel (T : Tables) : ∀ {n m : Nat} {d : Bytes}, d.length < n → d.length < m →
    scanEOF T n d = scanEOF T m d
  | 0, _, _, h, _ => absurd h (Nat.not_lt_zero _)
  | _, 0, _, _, h => absurd h (Nat.not_lt_zero _)
  | n + 1, m + 1, d, hn, hm => by
    rw [scanEOF, scanEOF]
    cases hsp : split T d true with
    | more => rfl
    | fail => rfl
    | token adv tok =>
      dsimp only
      by_cases ha : adv = 0
      · rw [if_pos ha, if_pos ha]
      · have hl := drop_token_lt hsp (Nat.pos_of_ne_zero ha)
        rw [if_neg ha, if_neg ha, scanEOF_fuel T (Nat.lt_of_lt_of_le hl (Nat.le_of_lt_succ hn))
          (Nat.lt_of_lt_of_le hl (Nat.le_of_lt_succ hm))]

theorem scanEOF_eq_strip (T : Tables) {d : Bytes} {n : Nat} (hn : d.length < n) : scanEOF T n d = strip T d :=
  scanEOF_fuel T hn (Nat.lt_succ_self _)

theorem strip_nil (T : Tables) : strip T [] = ([], .ok) := rfl

theorem strip_more {T : Tables} {d : Bytes} (h : split T d true = .more) : strip T d = ([], .ok) := by
  rw [strip, scanEOF, h]

theorem strip_fail {T : Tables} {d : Bytes} (h : split T d true = .fail) : strip T d = ([], .err) := by
  rw [strip, scanEOF, h]

theorem strip_token {T : Tables} {d tok : Bytes} {adv : Nat} (h : split T d true = .token adv tok) (ha : 0 < adv) :
    strip T d = (tok ++ (strip T (d.drop adv)).1, (strip T (d.drop adv)).2) := by
  rw [strip, scanEOF, h]
  simp only [if_neg (Nat.ne_of_gt ha)]
  rw [scanEOF_eq_strip T (drop_token_lt h ha)]

theorem strip_not_stuck {T : Tables} (hT : T.Stable) (d : Bytes) : (strip T d).2 ≠ .stuck := by
  cases hsp : split T d true with
  | more => rw [strip_more hsp]; nofun
  | fail => rw [strip_fail hsp]; nofun
  | token adv tok =>
    have hpos := split_eof_adv_pos hT hsp
    rw [strip_token hsp hpos]
    exact strip_not_stuck hT (d.drop adv)
termination_by d.length
decreasing_by exact drop_token_lt hsp hpos

theorem scan_succ {T : Tables} (hT : T.Stable) (n : Nat) (buf : Bytes) (chunks : List Bytes) :
    scan T (n + 1) buf chunks =
      match split T buf false with
      | .token adv tok =>
        if adv = 0 then ([], .stuck)
        else ((tok ++ (scan T n (buf.drop adv) chunks).1, (scan T n (buf.drop adv) chunks).2))
      | .fail => ([], .err)
      | .more =>
        match chunks with
        | [] => scanEOF T n buf
        | c :: cs => scan T n (buf ++ c) cs := by
  cases buf with
  | nil => rw [split_nil hT]; rfl
  | cons => rfl

theorem scan_eq {T : Tables} (hT : T.Stable) : ∀ (n : Nat) (buf : Bytes) (chunks : List Bytes),
    2 * buf.length + 2 * chunks.flatten.length + chunks.length + 2 ≤ n →
    scan T n buf chunks = strip T (buf ++ chunks.flatten)
  | 0, _, _, h => absurd h (Nat.not_succ_le_zero _)
  | n + 1, buf, chunks, h => by
    rw [scan_succ hT]
    cases hsp : split T buf false with
    | token adv tok =>
      obtain ⟨hst, hpos, hle⟩ := split_stable hT hsp chunks.flatten true
      dsimp only
      rw [if_neg (Nat.ne_of_gt hpos), strip_token hst hpos, List.drop_append_of_le_length hle,
        scan_eq hT n (buf.drop adv) chunks (by rw [List.length_drop]; omega)]
    | fail => exact absurd hsp (split_false_ne_fail _ _)
    | more =>
      cases chunks with
      | nil => rw [List.flatten_nil, List.append_nil]; exact scanEOF_eq_strip T (by omega)
      | cons c cs =>
        dsimp only
        rw [List.flatten_cons, List.length_append, List.length_cons] at h
        rw [scan_eq hT n (buf ++ c) cs (by rw [List.length_append]; omega), List.flatten_cons, List.append_assoc]

end Oryx.Json
