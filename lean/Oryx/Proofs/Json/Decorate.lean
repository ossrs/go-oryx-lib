/-
  JSON token lists, decorations, and what the comment reader does to each piece of a decorated document; RFC 8259
  string literals are string bodies in the sense of `strBody`.
-/
import Oryx.Proofs.Json.Scan
namespace Oryx.Json
open Oryx

/-- Bytes of a non-string token (punctuation, number, literal, white space): none of `"`, `'`, `/`. -/
def Plain (p : Bytes) : Prop := ∀ b ∈ p, b ≠ 34 ∧ b ≠ 39 ∧ b ≠ 47

/-- Body of a string literal: `(escape pair | byte ∉ {", \})*` — a backslash is always followed by one
more byte (whatever it is: `\"`, `\\`, `\/`, `\n`, `\u…`), and there is no bare quote. -/
def strBody : Bytes → Bool
  | [] => true
  | b :: t =>
    if b = 92 then
      match t with
      | [] => false
      | _ :: t' => strBody t'
    else if b = 34 then false
    else strBody t

/-- A piece of a decorated document: a token (non-string or string literal) or a comment. -/
inductive Piece where
  | plain (p : Bytes)
  | str (body : Bytes)
  | line (c : Bytes)
  | block (c : Bytes)

/-- Well-formed pieces: exactly the token grammar of the property, line comments without a newline in
their text, block comments without `*/` in their text. Comment texts are otherwise arbitrary (quotes,
apostrophes, backslashes, comment openers). -/
def Piece.WF : Piece → Prop
  | .plain p => Plain p
  | .str body => strBody body = true
  | .line c => ∀ b ∈ c, b ≠ 10
  | .block c => index [42, 47] c = none

def Piece.render : Piece → Bytes
  | .plain p => p
  | .str body => 34 :: body ++ [34]
  | .line c => 47 :: 47 :: c ++ [10]
  | .block c => 47 :: 42 :: c ++ [42, 47]

/-- What must remain of a piece: tokens stay, comments vanish. -/
def Piece.kept : Piece → Bytes
  | .plain p => p
  | .str body => 34 :: body ++ [34]
  | .line _ => []
  | .block _ => []

def Piece.isComment : Piece → Bool
  | .line _ => true
  | .block _ => true
  | _ => false

/-- A final line comment that ends at EOF without a newline (`none`: the document ends after the last piece). -/
def tailText : Option Bytes → Bytes
  | none => []
  | some c => 47 :: 47 :: c

def TailWF : Option Bytes → Prop
  | none => True
  | some c => ∀ b ∈ c, b ≠ 10

def renderDoc (ps : List Piece) (tail : Option Bytes) : Bytes :=
  (ps.map Piece.render).flatten ++ tailText tail

/-- The undecorated text: the concatenation of the tokens. -/
def keptDoc (ps : List Piece) : Bytes := (ps.map Piece.kept).flatten

theorem renderDoc_cons (p : Piece) (ps : List Piece) (tail : Option Bytes) :
    renderDoc (p :: ps) tail = p.render ++ renderDoc ps tail := List.append_assoc ..

theorem renderDoc_none (ps : List Piece) : renderDoc ps none = (ps.map Piece.render).flatten := List.append_nil _

theorem keptDoc_cons (p : Piece) (ps : List Piece) : keptDoc (p :: ps) = p.kept ++ keptDoc ps := rfl

theorem Piece.kept_eq (p : Piece) : p.kept = if p.isComment then [] else p.render := by cases p <;> rfl

theorem starts_eq : jsonPlus.starts = [[39], [34], [47, 47], [47, 42]] := rfl

theorem plain_nil : Plain [] := nofun

theorem plain_append {p q : Bytes} (hp : Plain p) (hq : Plain q) : Plain (p ++ q) := fun b hb =>
  (List.mem_append.mp hb).elim (hp b) (hq b)

theorem flagAt_plain {P : Bytes} (hP : Plain P) : ∀ b ∈ P, ∀ t, flagAt jsonPlus.starts (b :: t) = none := by
  intro b hb t
  obtain ⟨h34, h39, h47⟩ := hP b hb
  simp [flagAt, starts_eq, List.findIdx?_cons, Ne.symm h34, Ne.symm h39, Ne.symm h47]

theorem firstMatch_plain {P : Bytes} (hP : Plain P) : firstMatch P jsonPlus.starts = none := by
  have := firstMatch_skip (flagAt_plain hP) []
  rwa [List.append_nil] at this

theorem split_after_plain {P s X en : Bytes} {i : Nat} {c : Bool} (hP : Plain P)
    (hi : flagAt jsonPlus.starts (s ++ X) = some i)
    (hs : jsonPlus.starts[i]?.getD [] = s) (he : jsonPlus.ends[i]?.getD [] = en)
    (hc : jsonPlus.isComment[i]?.getD false = c) (e : Bool) :
    split jsonPlus (P ++ (s ++ X)) e =
      match indexEnd X en (!c) with
      | some k => .token (P.length + s.length + k + en.length)
          (if c then P else (P ++ (s ++ X)).take (P.length + s.length + k + en.length))
      | none =>
        if e then if jsonPlus.required[i]?.getD false then .fail
          else .token (P ++ (s ++ X)).length (if c then P else P ++ (s ++ X))
        else .more := by
  have hfm : firstMatch (P ++ (s ++ X)) jsonPlus.starts = some (P.length, i) := by
    rw [firstMatch_skip (flagAt_plain hP), firstMatch_of_flagAt hi]; simp
  obtain ⟨hpos, hb⟩ := firstMatch_start_bounds jsonPlus_stable hfm
  rw [hs] at hpos hb
  have hd : P ++ (s ++ X) ≠ [] := by
    intro h; rw [h] at hb; exact absurd hb (by simp only [List.length_nil]; omega)
  have hdrop : (P ++ (s ++ X)).drop (P.length + s.length) = X := by
    rw [← List.append_assoc]; exact drop_append_len _ _ List.length_append
  rw [split_of_firstMatch hd hfm hs he hc hb e, hdrop, take_append_len P _ rfl]
  cases indexEnd X en (!c) <;> rfl

theorem strip_region {P s c en R : Bytes} {i : Nat} {isC : Bool} (hP : Plain P)
    (hi : flagAt jsonPlus.starts (s ++ (c ++ (en ++ R))) = some i)
    (hs : jsonPlus.starts[i]?.getD [] = s) (he : jsonPlus.ends[i]?.getD [] = en)
    (hc : jsonPlus.isComment[i]?.getD false = isC)
    (hend : indexEnd (c ++ (en ++ R)) en (!isC) = some c.length) :
    strip jsonPlus (P ++ (s ++ (c ++ (en ++ R)))) =
      ((if isC then P else P ++ (s ++ (c ++ en))) ++ (strip jsonPlus R).1, (strip jsonPlus R).2) := by
  have hsp := split_after_plain hP hi hs he hc true
  rw [hend] at hsp
  have e2 : P ++ (s ++ (c ++ (en ++ R))) = (P ++ (s ++ (c ++ en))) ++ R := by simp
  have hl : (P ++ (s ++ (c ++ en))).length = P.length + s.length + c.length + en.length := by
    simp only [List.length_append, Nat.add_assoc]
  rw [strip_token hsp (split_eof_adv_pos jsonPlus_stable hsp), e2, drop_append_len _ _ hl, take_append_len _ _ hl]

theorem strBody_cons (b : UInt8) (t : Bytes) :
    strBody (b :: t) =
      if b = 92 then
        match t with
        | [] => false
        | _ :: t' => strBody t'
      else if b = 34 then false
      else strBody t := by
  cases t <;> rfl

theorem indexEsc_strBody {body : Bytes} (h : strBody body = true) (R : Bytes) :
    indexEsc [34] (body ++ 34 :: R) = some body.length := by
  have e : escByte = 92 := rfl
  induction body using strBody.induct with
  | case1 => rw [List.nil_append, indexEsc_cons, e]; rfl
  | case2 => cases h
  | case3 c t ih =>
    rw [List.cons_append, List.cons_append, indexEsc_cons, e, if_pos rfl]
    simp only [ih h]; rfl
  | case4 t => rw [strBody_cons, if_neg (by decide), if_pos rfl] at h; cases h
  | case5 b t hb hq ih =>
    rw [strBody_cons, if_neg hb, if_neg hq] at h
    rw [List.cons_append, indexEsc_cons, e, if_neg hb, isPrefixOf_singleton_of_ne hq, ih h]; rfl

theorem strip_plain {P : Bytes} (hP : Plain P) : strip jsonPlus P = (P, .ok) := by
  by_cases hd : P = []
  · rw [hd]; rfl
  · have := split_of_none hd (firstMatch_plain hP) true
    rw [strip_token this (List.length_pos_iff.mpr hd), List.drop_length, strip_nil, List.append_nil]

theorem strip_tail {P c : Bytes} (hP : Plain P) (hc : ∀ b ∈ c, b ≠ 10) :
    strip jsonPlus (P ++ ([47, 47] ++ c)) = (P, .ok) := by
  have hsp := split_after_plain (i := 2) (s := [47, 47]) (en := [10]) (c := true) (X := c) hP rfl rfl rfl rfl true
  rw [Bool.not_true, indexEnd_false, index_singleton_none hc] at hsp
  rw [strip_token hsp (split_eof_adv_pos jsonPlus_stable hsp), List.drop_length, strip_nil]
  exact congrArg (·, Status.ok) (List.append_nil P)

/-- `P`: token bytes already pending in the buffer, which a string that follows joins in one token. -/
theorem strip_doc_aux (tail : Option Bytes) (htail : TailWF tail) :
    ∀ (ps : List Piece) (P : Bytes), Plain P → (∀ p ∈ ps, p.WF) →
      strip jsonPlus (P ++ renderDoc ps tail) = (P ++ keptDoc ps, .ok)
  | [], P, hP, _ => by
    cases tail with
    | none => simpa [renderDoc, tailText, keptDoc] using strip_plain hP
    | some c => simpa [renderDoc, tailText, keptDoc] using strip_tail hP htail
  | piece :: ps, P, hP, hps => by
    have ih := fun Q hQ => strip_doc_aux tail htail ps Q hQ fun p hp => hps p (List.mem_cons_of_mem _ hp)
    have hpiece := hps piece List.mem_cons_self
    have ih0 := ih [] plain_nil
    rw [List.nil_append] at ih0
    rw [renderDoc_cons, keptDoc_cons]
    cases piece with
    | plain p => simpa [Piece.render, Piece.kept] using ih (P ++ p) (plain_append hP hpiece)
    | str body =>
      have := strip_region (s := [34]) (en := [34]) (i := 1) (isC := false) (R := renderDoc ps tail) hP rfl rfl rfl rfl
        (indexEsc_strBody hpiece _)
      simpa [Piece.render, Piece.kept, ih0] using this
    | line c =>
      have := strip_region (s := [47, 47]) (en := [10]) (i := 2) (isC := true) (R := renderDoc ps tail) hP rfl rfl rfl rfl
        (index_singleton_append hpiece _)
      simpa [Piece.render, Piece.kept, ih0] using this
    | block c =>
      have := strip_region (s := [47, 42]) (en := [42, 47]) (i := 3) (isC := true) (R := renderDoc ps tail) hP rfl rfl rfl rfl
        (index_blockEnd_append c hpiece _)
      simpa [Piece.render, Piece.kept, ih0] using this

/-! ### RFC 8259 string literals are string bodies in the sense of `strBody` -/

/-- One item of a JSON string: an unescaped byte (anything but `"` and `\`; UTF-8 bytes included) or a
backslash escape `\c` (`\"`, `\\`, `\/`, `\b` … and `\u`, whose four hex digits follow as unescaped bytes). -/
inductive StrItem where
  | raw (b : UInt8) (h : b ≠ 34 ∧ b ≠ 92)
  | esc (c : UInt8)

def StrItem.bytes : StrItem → Bytes
  | .raw b _ => [b]
  | .esc c => [92, c]

def strItems (items : List StrItem) : Bytes := (items.map StrItem.bytes).flatten

theorem strBody_items : ∀ items : List StrItem, strBody (strItems items) = true
  | [] => by simp [strItems, strBody]
  | .raw b h :: rest => by
    have ih := strBody_items rest
    simp only [strItems, List.map_cons, List.flatten_cons, StrItem.bytes, List.cons_append, List.nil_append] at ih ⊢
    rw [strBody_cons]
    simp [h.1, h.2, ih]
  | .esc c :: rest => by
    have ih := strBody_items rest
    simp only [strItems, List.map_cons, List.flatten_cons, StrItem.bytes, List.cons_append, List.nil_append] at ih ⊢
    rw [strBody_cons]
    simp [ih]

end Oryx.Json
