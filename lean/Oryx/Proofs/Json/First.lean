/-
  `firstMatch` read left to right: at each position the first flag that is a prefix of the data wins (`flagAt`), else
  the search moves on. Which flag tables keep a first match under extension of the data (`StableFlags`).
-/
import Oryx.Proofs.Json.Index
namespace Oryx.Json
open Oryx

theorem findIdx?_congr {α} {p q : α → Bool} : ∀ {l : List α}, (∀ a ∈ l, p a = q a) → l.findIdx? p = l.findIdx? q
  | [], _ => rfl
  | a :: l, h => by
    rw [List.findIdx?_cons, List.findIdx?_cons, h a List.mem_cons_self,
      findIdx?_congr fun b hb => h b (List.mem_cons_of_mem _ hb)]

/-- The first of the flags that is a prefix of the data. -/
def flagAt (fs : List Bytes) (d : Bytes) : Option Nat := fs.findIdx? (·.isPrefixOf d)

theorem firstMatchAux_zero (d : Bytes) : ∀ (fs : List Bytes) (i k : Nat),
    firstMatchAux d fs i (some (0, k)) = some (0, k)
  | [], _, _ => rfl
  | f :: fs, i, k => by
    simp only [firstMatchAux]
    cases index f d with
    | none => exact firstMatchAux_zero d fs (i + 1) k
    | some p => simpa using firstMatchAux_zero d fs (i + 1) k

theorem firstMatchAux_flagAt {d : Bytes} : ∀ {fs : List Bytes} {i k : Nat} {best : Option (Nat × Nat)},
    flagAt fs d = some k → (∀ r, best = some r → 0 < r.1) → firstMatchAux d fs i best = some (0, i + k)
  | [], _, _, _, h, _ => by cases h
  | f :: fs, i, k, best, h, hb => by
    rw [flagAt, List.findIdx?_cons] at h
    rw [firstMatchAux]
    cases hp : f.isPrefixOf d with
    | true =>
      rw [hp] at h; cases h
      rw [index_eq_zero_iff.mpr hp]
      cases best with
      | none => exact firstMatchAux_zero ..
      | some r => simp only [gt_iff_lt, hb r rfl, if_true]; exact firstMatchAux_zero ..
    | false =>
      rw [hp] at h
      obtain ⟨k', hk, rfl⟩ := Option.map_eq_some_iff.mp h
      have e : i + (k' + 1) = i + 1 + k' := by omega
      rw [e]
      cases hi : index f d with
      | none => exact firstMatchAux_flagAt hk hb
      | some p =>
        -- `f` is found, but not at 0: if it becomes the best, the best is still not at 0
        have hp0 : 0 < p := Nat.pos_of_ne_zero fun h0 => by rw [h0, index_eq_zero_iff, hp] at hi; cases hi
        have hnew : ∀ r, some (p, i) = some r → 0 < r.1 := fun _ hr => by cases hr; exact hp0
        cases best with
        | none => exact firstMatchAux_flagAt hk hnew
        | some r =>
          simp only
          split
          · exact firstMatchAux_flagAt hk hnew
          · exact firstMatchAux_flagAt hk hb

theorem firstMatchAux_shift (b : UInt8) (t : Bytes) :
    ∀ (fs : List Bytes) (i : Nat) (best : Option (Nat × Nat)),
      (∀ f ∈ fs, f.isPrefixOf (b :: t) = false) →
      firstMatchAux (b :: t) fs i (best.map (Prod.map (· + 1) id)) =
        (firstMatchAux t fs i best).map (Prod.map (· + 1) id)
  | [], _, best, _ => rfl
  | f :: fs, i, best, h => by
    have ih := fun best' => firstMatchAux_shift b t fs (i + 1) best' (fun g hg => h g (List.mem_cons_of_mem _ hg))
    simp only [firstMatchAux, index_cons, h f List.mem_cons_self, Bool.false_eq_true, if_false]
    cases index f t with
    | none => exact ih best
    | some p =>
      cases best with
      | none => exact ih (some (p, i))
      | some bb =>
        obtain ⟨bp, bi⟩ := bb
        simp only [Option.map_some, Prod.map_apply, id, gt_iff_lt, Nat.add_lt_add_iff_right]
        split
        · exact ih (some (p, i))
        · exact ih (some (bp, bi))

theorem firstMatch_of_flagAt {fs : List Bytes} {d : Bytes} {i : Nat} (h : flagAt fs d = some i) :
    firstMatch d fs = some (0, i) := by
  have := firstMatchAux_flagAt (i := 0) (best := none) h nofun
  rwa [Nat.zero_add] at this

theorem firstMatch_cons {fs : List Bytes} {b : UInt8} {t : Bytes} (h : flagAt fs (b :: t) = none) :
    firstMatch (b :: t) fs = (firstMatch t fs).map (Prod.map (· + 1) id) :=
  firstMatchAux_shift b t fs 0 none (List.findIdx?_eq_none_iff.mp h)

theorem firstMatchAux_none {d : Bytes} : ∀ {fs : List Bytes} {i : Nat} {best : Option (Nat × Nat)},
    (∀ f ∈ fs, index f d = none) → firstMatchAux d fs i best = best
  | [], _, _, _ => rfl
  | f :: fs, _, _, h => by
    rw [firstMatchAux, h f List.mem_cons_self]
    exact firstMatchAux_none fun g hg => h g (List.mem_cons_of_mem _ hg)

theorem firstMatch_nil {fs : List Bytes} (h : flagAt fs [] = none) : firstMatch [] fs = none :=
  firstMatchAux_none fun f hf => by
    have := List.findIdx?_eq_none_iff.mp h f hf
    cases f with
    | nil => cases this
    | cons => rfl

/-- A table of flags on which a first match, once found, stays the first match however the data goes on: no flag is a
proper prefix of another (one that matches is not pre-empted by a longer one completed later at the same place), and
lengths differ by at most one (nor by a longer one starting earlier). `["/", "//"]` and `["b", "abc"]` are not. -/
def StableFlags (fs : List Bytes) : Prop :=
  ∀ f ∈ fs, ∀ g ∈ fs, g.length ≤ f.length + 1 ∧ (f <+: g → f = g)

theorem flagAt_some {fs : List Bytes} {d : Bytes} {i : Nat} (h : flagAt fs d = some i) :
    ∃ f, fs[i]? = some f ∧ f ∈ fs ∧ f <+: d := by
  obtain ⟨hi, hp, -⟩ := List.findIdx?_eq_some_iff_getElem.mp h
  exact ⟨fs[i], List.getElem?_eq_getElem hi, List.getElem_mem hi, isPrefixOf_iff.mp hp⟩

theorem flagAt_append {fs : List Bytes} (hS : StableFlags fs) {d : Bytes} {i : Nat} (h : flagAt fs d = some i) (x : Bytes) :
    flagAt fs (d ++ x) = some i := by
  obtain ⟨g, -, hg, hgd⟩ := flagAt_some h
  have hgx := hgd.trans (List.prefix_append d x)
  rw [← h]
  refine findIdx?_congr fun f hf => Bool.eq_iff_iff.mpr ?_
  rw [isPrefixOf_iff, isPrefixOf_iff]
  refine ⟨fun hp => ?_, fun hp => hp.trans (List.prefix_append d x)⟩
  -- a flag that became a prefix would be comparable with `g`, which is one
  have : f = g := (List.prefix_or_prefix_of_prefix hp hgx).elim (hS f hf g hg).2 fun h => ((hS g hg f hf).2 h).symm
  exact this ▸ hgd

theorem firstMatch_stable_zero {fs : List Bytes} (hS : StableFlags fs) {d : Bytes} {i : Nat} (h : flagAt fs d = some i) :
    (∃ f, fs[i]? = some f ∧ f ∈ fs ∧ 0 + f.length ≤ d.length) ∧ ∀ x, firstMatch (d ++ x) fs = some (0, i) := by
  obtain ⟨f, hk, hm, hp⟩ := flagAt_some h
  exact ⟨⟨f, hk, hm, by rw [Nat.zero_add]; exact hp.length_le⟩, fun x => firstMatch_of_flagAt (flagAt_append hS h x)⟩

theorem firstMatch_stable {fs : List Bytes} (hS : StableFlags fs) {d : Bytes} {p i : Nat} (h : firstMatch d fs = some (p, i)) :
    (∃ f, fs[i]? = some f ∧ f ∈ fs ∧ p + f.length ≤ d.length) ∧ ∀ x, firstMatch (d ++ x) fs = some (p, i) := by
  induction d generalizing p with
  | nil =>
    cases hf : flagAt fs [] with
    | none => rw [firstMatch_nil hf] at h; cases h
    | some k => rw [firstMatch_of_flagAt hf] at h; cases h; exact firstMatch_stable_zero hS hf
  | cons b t ih =>
    cases hf : flagAt fs (b :: t) with
    | some k => rw [firstMatch_of_flagAt hf] at h; cases h; exact firstMatch_stable_zero hS hf
    | none =>
      rw [firstMatch_cons hf] at h
      obtain ⟨⟨p', i'⟩, hr, hsh⟩ := Option.map_eq_some_iff.mp h
      cases hsh
      obtain ⟨⟨f, hk, hm, hb⟩, hx⟩ := ih hr
      refine ⟨⟨f, hk, hm, by simp only [List.length_cons]; omega⟩, fun x => ?_⟩
      -- no flag is longer than `b :: t`, so none becomes a prefix
      have : flagAt fs (b :: (t ++ x)) = none := hf ▸ findIdx?_congr fun g hg =>
        isPrefixOf_append (d := b :: t) (by have := (hS f hm g hg).1; simp only [List.length_cons]; omega) x
      rw [List.cons_append, firstMatch_cons this, hx x]; rfl

theorem firstMatch_skip {fs : List Bytes} {P : Bytes} (hP : ∀ b ∈ P, ∀ t, flagAt fs (b :: t) = none) (X : Bytes) :
    firstMatch (P ++ X) fs = (firstMatch X fs).map (Prod.map (· + P.length) id) := by
  induction P with
  | nil => rw [List.nil_append]; cases firstMatch X fs <;> rfl
  | cons b t ih =>
    rw [List.cons_append, firstMatch_cons (hP b List.mem_cons_self _), ih fun c hc => hP c (List.mem_cons_of_mem _ hc)]
    cases firstMatch X fs <;> rfl

end Oryx.Json
