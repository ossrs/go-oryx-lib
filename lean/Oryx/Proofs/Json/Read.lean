/-
  The consumer side (`commentReader.Read`): one `Read` seen from outside (`Rd.read_cases`), and from it what any sequence of
  `Read`s hands out and still owes. Independent of how the tokens come about; `tokensEOF_flatten` ties them to `scanEOF`.
-/
import Oryx.Model.JsonRead
namespace Oryx.Json

theorem tokensEOF_flatten (T : Tables) (n : Nat) (data : Bytes) :
    (tokensEOF T n data).1.flatten = (scanEOF T n data).1 ∧ (tokensEOF T n data).2 = (scanEOF T n data).2 := by
  induction n generalizing data with
  | zero => simp [tokensEOF, scanEOF]
  | succ n ih =>
    unfold tokensEOF scanEOF
    cases h : split T data true with
    | more => simp
    | fail => simp
    | token adv tok =>
      by_cases ha : adv = 0
      · simp [ha]
      · simp [ha, ih]

theorem flatten_dropWhile_isEmpty (l : List Bytes) : (l.dropWhile (·.isEmpty)).flatten = l.flatten := by
  induction l with
  | nil => rfl
  | cons a l ih =>
    cases a with
    | nil => simpa [List.dropWhile_cons] using ih
    | cons => rfl

theorem Rd.read_cases (r : Rd) (n : Nat) :
    (r.remaining = [] ∧ (r.read n).1.remaining = [] ∧ ((r.read n).2 = .eof ∨ (r.read n).2 = .err)) ∨
    ∃ cur rest, cur ≠ [] ∧ r.remaining = cur ++ rest ∧
      (r.read n).2 = .data (cur.take n) ∧ (r.read n).1.remaining = cur.drop n ++ rest := by
  unfold Rd.read Rd.remaining
  cases hb : r.buf with
  | cons b t => exact .inr ⟨b :: t, r.toks.flatten, nofun, rfl, rfl, rfl⟩
  | nil =>
    have hf := flatten_dropWhile_isEmpty r.toks
    simp only [List.isEmpty_nil, if_true, List.nil_append]
    cases hd : r.toks.dropWhile (·.isEmpty) with
    | nil =>
      rw [hd] at hf
      exact .inl ⟨hf.symm, rfl, by by_cases hs : r.st = .ok <;> simp [hs]⟩
    | cons t ts =>
      rw [hd] at hf
      have hne : t ≠ [] := by
        have := List.head_dropWhile_not (p := fun (b : Bytes) => b.isEmpty) (l := r.toks) (by rw [hd]; simp)
        simpa [hd] using this
      exact .inr ⟨t, ts.flatten, hne, hf.symm, rfl, rfl⟩

theorem Rd.read_remaining (r : Rd) (n : Nat) :
    (r.read n).2.bytes ++ (r.read n).1.remaining = r.remaining := by
  rcases r.read_cases n with ⟨h0, h1, h2 | h2⟩ | ⟨cur, rest, -, h0, h2, h1⟩
  · rw [h0, h1, h2]; rfl
  · rw [h0, h1, h2]; rfl
  · rw [h0, h1, h2, ROut.bytes, ← List.append_assoc, List.take_append_drop]

theorem Rd.read_end_nothing_left (r : Rd) (n : Nat) (h : (r.read n).2 = .eof ∨ (r.read n).2 = .err) :
    r.remaining = [] := by
  rcases r.read_cases n with ⟨h0, -⟩ | ⟨cur, rest, -, -, h2, -⟩
  · exact h0
  · rw [h2] at h; rcases h with h | h <;> cases h

theorem Rd.read_progress (r : Rd) (n : Nat) (hn : 0 < n) (h : r.remaining ≠ []) :
    ∃ b, (r.read n).2 = .data b ∧ b ≠ [] := by
  rcases r.read_cases n with ⟨h0, -⟩ | ⟨cur, rest, hc, -, h2, -⟩
  · exact absurd h0 h
  · refine ⟨_, h2, ?_⟩
    cases cur with
    | nil => exact absurd rfl hc
    | cons x xs => cases n with
      | zero => omega
      | succ m => nofun

def outBytes (os : List ROut) : Bytes := (os.map ROut.bytes).flatten

theorem outBytes_cons (o : ROut) (os : List ROut) : outBytes (o :: os) = o.bytes ++ outBytes os := rfl

theorem Rd.reads_remaining (r : Rd) (ns : List Nat) :
    outBytes (r.reads ns).2 ++ (r.reads ns).1.remaining = r.remaining := by
  fun_induction Rd.reads r ns with
  | case1 r => rfl
  | case2 r n ns r' b h rest ih => rw [← r.read_remaining n, h, outBytes_cons, List.append_assoc, ih]
  | case3 r n ns r' o _ h => rw [← r.read_remaining n, h, outBytes_cons, List.append_assoc]; rfl

theorem Rd.reads_end_nothing_left (r : Rd) (ns : List Nat) {o : ROut} (ho : o = .eof ∨ o = .err)
    (h : (r.reads ns).2.getLast? = some o) : (r.reads ns).1.remaining = [] := by
  fun_induction Rd.reads r ns with
  | case1 r => cases h
  | case2 r n ns r' b _ rest ih =>
    refine ih ?_
    rw [List.getLast?_cons] at h
    cases hl : rest.2.getLast? with
    | none => rw [hl] at h; cases h; rcases ho with ho | ho <;> cases ho
    | some x => rw [hl] at h; exact h
  | case3 r n ns r' o' _ hr =>
    cases h
    rcases r.read_cases n with ⟨-, h1, -⟩ | ⟨_, _, -, -, h2, -⟩
    · rwa [hr] at h1
    · rw [hr] at h2; rcases ho with rfl | rfl <;> cases h2

theorem Rd.ofInput_remaining (T : Tables) (input : Bytes) : (Rd.ofInput T input).remaining = (strip T input).1 :=
  (tokensEOF_flatten T (input.length + 1) input).1

end Oryx.Json
