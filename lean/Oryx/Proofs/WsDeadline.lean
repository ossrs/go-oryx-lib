/-
  The write-deadline model `Oryx.Model.WsDeadline` (C13): with every write arming its own deadline, the connection
  refines the specification in which a write depends on its own deadline and the latch only (`step_refines`,
  `run_refines`, `run_ownDeadlineOk`).
-/
import Oryx.Model.WsDeadline
namespace Oryx.Proofs.WsDeadline
open Oryx.Model.WsDeadline

/-- the abstraction: forget what is armed on the transport -/
def abs (c : Conn) : Spec := { latched := c.latched, wire := c.wire }

theorem step_refines (c : Conn) (op : Op) :
    abs (step true c op).1 = (specStep (abs c) op).1 ∧ (step true c op).2 = (specStep (abs c) op).2 := by
  cases op with
  | data now dl id =>
    simp only [step, specStep, abs, transportWrite, Bool.true_or, if_true]
    by_cases hl : c.latched = true
    · simp [hl]
    · simp only [hl]
      by_cases hp : passed now dl = true <;> simp [hp]
  | control now dl id =>
    simp only [step, specStep, abs, transportWrite, Bool.true_or, if_true]
    by_cases hp : passed now dl = true
    · simp [hp]
    · by_cases hl : c.latched = true <;> simp [hp, hl]

theorem run_refines (c : Conn) (ops : List Op) :
    abs (run true c ops).1 = (specRun (abs c) ops).1 ∧ (run true c ops).2 = (specRun (abs c) ops).2 := by
  induction ops generalizing c with
  | nil => simp [run, specRun]
  | cons op ops ih =>
    have h := step_refines c op
    have := ih (step true c op).1
    simp only [run, specRun]
    rw [← h.1, ← h.2]
    exact ⟨this.1, by rw [this.2]⟩

theorem specStep_ok (s : Spec) (op : Op) (hl : s.latched = false) (h : op.ownDeadlineOk = true) :
    specStep s op = ({ s with wire := s.wire ++ [op.id] }, true) := by
  cases op <;> simp_all [specStep, Op.ownDeadlineOk, Op.id]

theorem specRun_ownDeadlineOk (w : List Nat) (ops : List Op) (h : ∀ op ∈ ops, op.ownDeadlineOk = true) :
    (specRun { latched := false, wire := w } ops).2 = ops.map (fun _ => true) ∧
      (specRun { latched := false, wire := w } ops).1 = { latched := false, wire := w ++ ops.map Op.id } := by
  induction ops generalizing w with
  | nil => simp [specRun]
  | cons op ops ih =>
    have := ih (w ++ [op.id]) (fun o ho => h o (List.mem_cons_of_mem _ ho))
    simp [specRun, specStep_ok { latched := false, wire := w } op rfl (h op (List.mem_cons_self ..)), this]

theorem run_ownDeadlineOk (c : Conn) (ops : List Op) (hl : c.latched = false) (h : ∀ op ∈ ops, op.ownDeadlineOk = true) :
    (run true c ops).2 = ops.map (fun _ => true) ∧ (run true c ops).1.wire = c.wire ++ ops.map Op.id := by
  have r := run_refines c ops
  have s := specRun_ownDeadlineOk c.wire ops h
  rw [show abs c = { latched := false, wire := c.wire } by simp [abs, hl]] at r
  exact ⟨r.2.trans s.1, congrArg Spec.wire (r.1.trans s.2)⟩

end Oryx.Proofs.WsDeadline
