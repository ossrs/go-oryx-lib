/-
  C08 — lemmas about Oryx/Model/Errors.lean: the errors package (towers keep the cause, `Error()` is the chain of
  messages, classes), then the parser monad `SP` and its two primitive reads as equations.
-/
import Oryx.Model.Errors
namespace Oryx.Errors
open Oryx

theorem Layer.apply_none (l : Layer) : l.apply none = none := by
  cases l <;> rfl

theorem build_none (ls : List Layer) : build ls none = none := by
  induction ls with
  | nil => rfl
  | cons l ls ih => simp [build, ih, Layer.apply_none]

theorem Layer.apply_some (l : Layer) (e : Err) :
    ∃ e', l.apply (some e) = some e' ∧ e'.cause = e.cause ∧ e'.messages = l.msg ++ e.messages := by
  cases l <;> exact ⟨_, rfl, rfl, rfl⟩

theorem joinColon_cons_cons (a b : String) (l : List String) :
    joinColon (a :: b :: l) = a ++ ": " ++ joinColon (b :: l) := rfl

theorem joinColon_append_singleton (l : List String) (m : String) (rest : List String) :
    joinColon (l ++ [joinColon (m :: rest)]) = joinColon (l ++ m :: rest) := by
  induction l with
  | nil => rfl
  | cons a l ih =>
    cases l with
    | nil => rfl
    | cons b l => exact congrArg (a ++ ": " ++ ·) ih

theorem message_eq_chain (e : Err) : e.message = joinColon (e.messages ++ [e.cause.message]) := by
  induction e with
  | root r => rfl
  | withMessage m e ih =>
    simp only [Err.message, Err.messages, Err.cause, List.cons_append]
    rw [ih]
    cases h : e.messages ++ [e.cause.message] with
    | nil => simp at h
    | cons a l => exact (joinColon_cons_cons m a l).symm
  | withStack e ih => exact ih

theorem cause_is_root (e : Err) : ∃ r, e.cause = .root r := by
  induction e with
  | root r => exact ⟨r, rfl⟩
  | withMessage m e ih => exact ih
  | withStack e ih => exact ih

theorem cause_cause (e : Err) : e.cause.cause = e.cause := by
  obtain ⟨r, h⟩ := cause_is_root e
  rw [h]; rfl

theorem build_some (ls : List Layer) (e : Err) :
    ∃ e', build ls (some e) = some e' ∧ e'.cause = e.cause ∧
      e'.messages = (ls.map Layer.msg).flatten ++ e.messages := by
  induction ls with
  | nil => exact ⟨e, rfl, rfl, by simp⟩
  | cons l ls ih =>
    obtain ⟨e1, h1, hc1, hm1⟩ := ih
    obtain ⟨e2, h2, hc2, hm2⟩ := l.apply_some e1
    refine ⟨e2, by simp [build, h1, h2], hc2.trans hc1, ?_⟩
    simp [hm2, hm1, List.append_assoc]

theorem rootOfEK_ekOfRoot (k : EK) : ekOfRoot (rootOfEK k) = k := by
  cases k <;> rfl

theorem cls_root (r : Nat) : (Err.root r).cls = ekOfRoot r := rfl

theorem cls_withMessage (m : String) (e : Err) : (Err.withMessage m e).cls = e.cls := rfl
theorem cls_withStack (e : Err) : (Err.withStack e).cls = e.cls := rfl

theorem cls_of_cause {e : Err} {r : Nat} (h : e.cause = .root r) : e.cls = ekOfRoot r := by
  simp [Err.cls, h]

theorem SP.bind_apply (p : SP α) (f : α → SP β) (t : Nat) (bs : Bytes) :
    (p >>= f) t bs = match p t bs with
      | .ok (a, r) => f a t r
      | .err e => .err e
      | .panic => .panic := rfl

theorem SP.pure_apply (a : α) (t : Nat) (bs : Bytes) : (pure a : SP α) t bs = .ok (a, bs) := rfl

theorem SP.lift_ok (a : α) (t : Nat) (bs : Bytes) : SP.lift (.ok a) t bs = .ok (a, bs) := rfl

theorem SP.bind_of_ok {p : SP α} {f : α → SP β} {t : Nat} {bs r : Bytes} {a : α} (h : p t bs = .ok (a, r)) :
    (p >>= f) t bs = f a t r := by
  rw [SP.bind_apply, h]

theorem SP.bind_of_err {p : SP α} {f : α → SP β} {t : Nat} {bs : Bytes} {e : Err} (h : p t bs = .err e) :
    (p >>= f) t bs = .err e := by
  rw [SP.bind_apply, h]

theorem SP.bind_eq_ok {p : SP α} {f : α → SP β} {t : Nat} {bs : Bytes} {v : β × Bytes}
    (h : (p >>= f) t bs = .ok v) : ∃ a r, p t bs = .ok (a, r) ∧ f a t r = .ok v := by
  rw [SP.bind_apply] at h
  cases hp : p t bs with
  | ok x => obtain ⟨a, r⟩ := x; rw [hp] at h; exact ⟨a, r, rfl, h⟩
  | err e => rw [hp] at h; cases h
  | panic => rw [hp] at h; cases h

theorem SP.mapErr_apply (f : Err → Err) (p : SP α) (t : Nat) (bs : Bytes) :
    (p.mapErr f) t bs = match p t bs with
      | .err e => .err (f e)
      | r => r := rfl

theorem SP.mapErr_ok {f : Err → Err} {p : SP α} {t : Nat} {bs : Bytes} {v : α × Bytes} :
    (p.mapErr f) t bs = .ok v ↔ p t bs = .ok v := by
  rw [SP.mapErr_apply]
  cases p t bs <;> simp

theorem SP.wrap_ok {msg : String} {p : SP α} {t : Nat} {bs : Bytes} {v : α × Bytes} :
    (p.wrap msg) t bs = .ok v ↔ p t bs = .ok v := SP.mapErr_ok

theorem SP.withMessage_ok {msg : String} {p : SP α} {t : Nat} {bs : Bytes} {v : α × Bytes} :
    (p.withMessage msg) t bs = .ok v ↔ p t bs = .ok v := SP.mapErr_ok

theorem SP.wrap_err {msg : String} {p : SP α} {t : Nat} {bs : Bytes} {e : Err} (h : p t bs = .err e) :
    (p.wrap msg) t bs = .err (.withStack (.withMessage msg e)) := by
  simp only [SP.wrap, SP.mapErr_apply, h]

theorem SP.withMessage_err {msg : String} {p : SP α} {t : Nat} {bs : Bytes} {e : Err} (h : p t bs = .err e) :
    (p.withMessage msg) t bs = .err (.withMessage msg e) := by
  simp only [SP.withMessage, SP.mapErr_apply, h]

/-- The root of an `io.ReadFull` that finds `len` bytes, fewer than it wants, before the transport reports `t`: `t`
itself, except that a stream that ends (`t = 0`) after at least one byte gives io.ErrUnexpectedEOF (1). -/
def shortRoot (t len : Nat) : Nat := if t = 0 then (if len = 0 then 0 else 1) else t

theorem shortRoot_zero (t : Nat) : shortRoot t 0 = t := by
  by_cases ht : t = 0
  · rw [ht]; rfl
  · exact if_neg ht

theorem readFullE_eq (n t : Nat) (bs : Bytes) :
    readFullE n t bs =
      if n = 0 then .ok ([], bs)
      else if bs.length < n then .err (.root (shortRoot t bs.length))
      else .ok (bs.take n, bs.drop n) := by
  have he : (bs.isEmpty = true) = (bs.length = 0) := by cases bs <;> simp
  simp only [readFullE, length_take_lt, he, shortRoot]

theorem readFullE_short {n : Nat} {bs : Bytes} (h : bs.length < n) (t : Nat) :
    readFullE n t bs = .err (.root (shortRoot t bs.length)) := by
  rw [readFullE_eq, if_neg (Nat.ne_of_gt (Nat.zero_lt_of_lt h)), if_pos h]

theorem readFullE_nil {n : Nat} (hn : n ≠ 0) (t : Nat) : readFullE n t [] = .err (.root t) := by
  rw [readFullE_short (Nat.pos_of_ne_zero hn), List.length_nil, shortRoot_zero]

theorem copyNE_eq (n t : Nat) (bs : Bytes) :
    copyNE n t bs = if bs.length < n then .err (.root t) else .ok (bs.take n, bs.drop n) := by
  simp only [copyNE, length_take_lt]

theorem copyNE_append {n : Nat} (t : Nat) (a r : Bytes) (h : a.length = n) : copyNE n t (a ++ r) = .ok (a, r) := by
  rw [copyNE_eq, if_neg (by rw [List.length_append, h]; exact Nat.not_lt_of_le (Nat.le_add_right _ _)),
    take_append_len a r h, drop_append_len a r h]

end Oryx.Errors
