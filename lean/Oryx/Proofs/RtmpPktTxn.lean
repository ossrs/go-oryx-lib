/-
  C03, part 4: the outstanding-transaction table as a function of the history of packets written and
  messages decoded (consume-once), and the typed waits passing over the messages they skip (each clause of the
  first-match property in Props/C03 is a line from that).
-/
import Oryx.Proofs.RtmpPkt
namespace Oryx.RtmpPkt
open Oryx Oryx.Res Oryx.Amf0 Oryx.Rtmp

/-! ### float64 key equality: symmetric and transitive, not reflexive (a NaN equals nothing, itself included) -/

theorem numEq_iff {a b : UInt64} : numEq a b = true ↔
    isNaN a = false ∧ isNaN b = false ∧ (a = b ∨ isZero a = true ∧ isZero b = true) := by
  simp [numEq, and_assoc]

theorem numEq_comm (a b : UInt64) : numEq a b = numEq b a := by
  rw [Bool.eq_iff_iff, numEq_iff, numEq_iff]
  exact ⟨fun h => ⟨h.2.1, h.1, h.2.2.imp Eq.symm And.symm⟩, fun h => ⟨h.2.1, h.1, h.2.2.imp Eq.symm And.symm⟩⟩

theorem numEq_trans {a b c : UInt64} (h1 : numEq a b = true) (h2 : numEq b c = true) : numEq a c = true := by
  rw [numEq_iff] at h1 h2 ⊢
  refine ⟨h1.1, h2.2.1, ?_⟩
  rcases h1.2.2 with rfl | h1
  · exact h2.2.2
  · rcases h2.2.2 with rfl | h2
    · exact .inr h1
    · exact .inr ⟨h1.1, h2.2⟩

theorem numEq_congr {a b : UInt64} (h : numEq a b = true) (x : UInt64) : numEq a x = numEq b x := by
  rw [Bool.eq_iff_iff]
  exact ⟨numEq_trans (numEq_comm a b ▸ h), numEq_trans h⟩

theorem numEq_of_pos {a b : UInt64} (ha : isPositive a = true) (h : numEq a b = true) : a = b := by
  simp only [isPositive, isZero, numEq_iff, Bool.and_eq_true, decide_eq_true_eq] at ha h
  rcases h.2.2 with h | h
  · exact h
  · omega

theorem numEq_self_of_pos {a : UInt64} (ha : isPositive a = true) : numEq a a = true := by
  simp only [isPositive, Bool.and_eq_true, Bool.not_eq_true'] at ha
  simp [numEq, ha.1.1]

theorem TxnTable.find_erase (t : TxnTable) (k x : UInt64) :
    (t.erase k).find x = if numEq k x then none else t.find x := by
  induction t with
  | nil => simp [TxnTable.erase, TxnTable.find]
  | cons e rest ih =>
    simp only [TxnTable.erase] at ih ⊢
    cases h1 : numEq e.1 k
    · simp only [List.filter, h1, Bool.not_false, TxnTable.find, ih]
      cases h3 : numEq e.1 x
      · rfl
      · rw [numEq_comm k x, ← numEq_congr h3 k, h1]; rfl
    · simp only [List.filter, h1, Bool.not_true, TxnTable.find, ih, numEq_congr h1 x]
      split <;> rfl

theorem TxnTable.erase_of_find_none {t : TxnTable} {k : UInt64} (h : t.find k = none) : t.erase k = t := by
  induction t with
  | nil => rfl
  | cons e rest ih =>
    simp only [TxnTable.find] at h
    split at h
    · cases h
    · next hne => simp only [TxnTable.erase, List.filter, hne, Bool.not_false] at ih ⊢; rw [ih h]

theorem TxnTable.find_congr (t : TxnTable) {k x : UInt64} (h : numEq k x = true) : t.find k = t.find x := by
  induction t with
  | nil => rfl
  | cons e rest ih => simp only [TxnTable.find, ih, numEq_comm e.1, numEq_congr h]

theorem TxnTable.find_map_replace (t : TxnTable) (k : UInt64) (v : Bytes) (x : UInt64) :
    TxnTable.find (t.map fun e => if numEq e.1 k then (e.1, v) else e) x =
      (t.find x).map fun w => if numEq k x then v else w := by
  induction t with
  | nil => rfl
  | cons e rest ih =>
    have hk : (if numEq e.1 k then (e.1, v) else e).1 = e.1 := by split <;> rfl
    simp only [List.map_cons, TxnTable.find, hk, ih]
    cases h3 : numEq e.1 x
    · rfl
    · rw [numEq_comm k x, ← numEq_congr h3 k]
      cases numEq e.1 k <;> rfl

theorem TxnTable.find_append_single (t : TxnTable) (k : UInt64) (v : Bytes) (x : UInt64) :
    TxnTable.find (t ++ [(k, v)]) x = (t.find x).or (if numEq k x then some v else none) := by
  induction t with
  | nil => simp only [List.nil_append, TxnTable.find, Option.none_or]
  | cons e rest ih => simp only [List.cons_append, TxnTable.find, ih]; split <;> rfl

theorem TxnTable.find_insert (t : TxnTable) (k : UInt64) (v : Bytes) (x : UInt64) :
    (t.insert k v).find x = if numEq k x then some v else t.find x := by
  unfold TxnTable.insert
  cases hx : numEq k x
  · split
    · rw [TxnTable.find_map_replace]; simp [hx]
    · rw [TxnTable.find_append_single]; simp [hx]
  · rw [← TxnTable.find_congr t hx]
    cases hk : t.find k
    · simp [TxnTable.find_append_single, hx, ← TxnTable.find_congr t hx, hk]
    · simp [TxnTable.find_map_replace, hx, ← TxnTable.find_congr t hx, hk]

/-- One step of an endpoint's life: it writes a packet (`WritePacket`) or decodes a message
(`DecodeMessage`, whatever the message and the result). -/
inductive Op where
  | send (p : Packet)
  | recv (m : Msg)

def step (tbl : TxnTable) : Op → TxnTable
  | .send p => onPacketWritten tbl p
  | .recv m => (dispatchSt tbl m).2

/-- The table after a history, starting with no outstanding request (`NewProtocol`). -/
def run (ops : List Op) : TxnTable := ops.foldl step []

/-- The `(tid, name)` of a packet type with an arm in `onPacketWriten` (connect and createStream: gated in
Props/C03), if the id is positive and the name non-empty. -/
def requestOf (p : Packet) : Option (UInt64 × Bytes) :=
  match registers p with
  | some (t, n) => if isPositive t ∧ n.length > 0 then some (t, n) else none
  | none => none

/-- The transaction id a received message answers: an AMF command/data message whose body starts with
`_result` or `_error` and a number. -/
def responseTid (m : Msg) : Option UInt64 :=
  if m.payload.length = 0 then none else
  match Gen.Rtmp.decodeMessageArm m.hdr.ty with
  | .parseAMFObject =>
    match (if Gen.Rtmp.decodeMessageSkipsOneByte m.hdr.ty then sliceFrom m.payload 1 else ok m.payload) with
    | .ok p =>
      match strDec p with
      | .ok name =>
        match Gen.Rtmp.parseCommandArm name with
        | .response =>
          match sliceFrom p (Amf0.size (.str name)) >>= numDec with
          | .ok tid => some tid
          | _ => none
        | _ => none
      | _ => none
    | _ => none
  | _ => none

/-- Specification over the history: the name of the request with id `t` that is still awaiting its
response — the latest request written with that id, unless a response to it was decoded since. -/
def awaitStep (t : UInt64) (cur : Option Bytes) : Op → Option Bytes
  | .send p => match requestOf p with
    | some (t', n) => if numEq t' t then some n else cur
    | none => cur
  | .recv m => match responseTid m with
    | some t' => if numEq t' t then none else cur
    | none => cur

def awaiting (t : UInt64) (ops : List Op) : Option Bytes := ops.foldl (awaitStep t) none

/-- `DecodeMessage` consults the table only for a response, and then only through the entry of its
transaction id: looked up, deleted, and its request's name choosing the constructor. -/
theorem dispatchSt_by_responseTid (tbl : TxnTable) (m : Msg) : dispatchSt tbl m =
    match responseTid m with
    | some tid =>
      match tbl.find tid with
      | none => (err .generic, tbl)
      | some req => decodeWith (ctorResult (Gen.Rtmp.parseResponseArm req) (tbl.erase tid))
          (if Gen.Rtmp.decodeMessageSkipsOneByte m.hdr.ty then m.payload.drop 1 else m.payload)
    | none => ((dispatchSt tbl m).1, tbl) := by
  unfold dispatchSt responseTid
  by_cases h0 : m.payload.length = 0
  · simp only [h0, if_true]
  simp only [h0, if_false]
  by_cases ha : Gen.Rtmp.decodeMessageArm m.hdr.ty = .parseAMFObject
  · simp only [ha]
    cases hp : (if Gen.Rtmp.decodeMessageSkipsOneByte m.hdr.ty = true then sliceFrom m.payload 1 else ok m.payload) with
    | err | panic => rfl
    | ok p =>
      obtain rfl : p = if Gen.Rtmp.decodeMessageSkipsOneByte m.hdr.ty = true then m.payload.drop 1 else m.payload := by
        split at hp
        · next hs => rw [if_pos hs]; exact (sliceFrom_ok hp).2
        · next hs => rw [if_neg hs]; exact (ok.inj hp).symm
      simp only [parseAMFObject]
      cases strDec _ with
      | err | panic => rfl
      | ok name =>
        by_cases hr : Gen.Rtmp.parseCommandArm name = .response
        · simp only [hr]
          cases (sliceFrom _ (Amf0.size (.str name)) >>= numDec) with
          | err | panic => rfl
          | ok tid => simp only []; cases tbl.find tid <;> rfl
        · simp only []; exact Prod.ext rfl (by rw [decodeWith_tbl, ctorResult_tbl])
  · simp only []
    cases (if Gen.Rtmp.decodeMessageSkipsOneByte m.hdr.ty = true then sliceFrom m.payload 1 else ok m.payload) with
    | err | panic => rfl
    | ok p => exact Prod.ext rfl (by rw [decodeWith_tbl, ctorResult_tbl])

theorem dispatchSt_tbl (tbl : TxnTable) (m : Msg) :
    (dispatchSt tbl m).2 = match responseTid m with | some tid => tbl.erase tid | none => tbl := by
  rw [dispatchSt_by_responseTid]
  cases responseTid m with
  | none => rfl
  | some tid =>
    simp only []
    cases hf : tbl.find tid with
    | none => exact (TxnTable.erase_of_find_none hf).symm
    | some req => simp only [decodeWith_tbl, ctorResult_tbl]

theorem onPacketWritten_eq (tbl : TxnTable) (p : Packet) :
    onPacketWritten tbl p = match requestOf p with | some (t, n) => tbl.insert t n | none => tbl := by
  unfold onPacketWritten requestOf
  cases registers p with
  | none => rfl
  | some tn => simp only []; split <;> rfl

theorem step_find (tbl : TxnTable) (op : Op) (t : UInt64) :
    (step tbl op).find t = awaitStep t (tbl.find t) op := by
  cases op with
  | send p =>
    simp only [step, awaitStep, onPacketWritten_eq]
    cases requestOf p with
    | none => rfl
    | some tn => exact TxnTable.find_insert tbl tn.1 tn.2 t
  | recv m =>
    simp only [step, awaitStep, dispatchSt_tbl]
    cases responseTid m with
    | none => rfl
    | some tid => exact TxnTable.find_erase tbl tid t

theorem run_find (ops : List Op) (t : UInt64) : (run ops).find t = awaiting t ops :=
  (List.foldl_hom (TxnTable.find · t) (g₂ := awaitStep t) (fun tbl op => (step_find tbl op t).symm)).symm

theorem requestOf_pos {p : Packet} {t : UInt64} {n : Bytes} (h : requestOf p = some (t, n)) : isPositive t = true := by
  unfold requestOf at h
  split at h
  · split at h
    · next hc => cases h; exact hc.1
    · cases h
  · cases h

theorem awaitStep_pos {t : UInt64} {cur : Option Bytes} {op : Op} {r : Bytes} (h : awaitStep t cur op = some r) :
    cur = some r ∨ isPositive t = true := by
  cases op with
  | send p =>
    simp only [awaitStep] at h
    split at h
    · next t' n hq =>
      split at h
      · next he => exact .inr (numEq_of_pos (requestOf_pos hq) he ▸ requestOf_pos hq)
      · exact .inl h
    · exact .inl h
  | recv m =>
    simp only [awaitStep] at h
    split at h
    · split at h
      · cases h
      · exact .inl h
    · exact .inl h

/-- Only a positive id is ever awaited (`onPacketWriten` registers no other; a NaN equals none). -/
theorem awaiting_pos {t : UInt64} {ops : List Op} {req : Bytes} (h : awaiting t ops = some req) : isPositive t = true :=
  List.foldlRecOn ops (awaitStep t) (b := none) (motive := fun cur => ∀ r, cur = some r → isPositive t = true) nofun
    (fun _ hc _ _ r hr => (awaitStep_pos hr).elim (hc r) id) req h

theorem run_append (ops : List Op) (op : Op) : run (ops ++ [op]) = step (run ops) op := by
  simp [run, List.foldl_append]

/-- The kind of the response packet for the request named `req`. -/
def respKind (req : Bytes) : Option Kind := ctorKind (Gen.Rtmp.parseResponseArm req)

theorem dispatchSt_response_none {tbl : TxnTable} {m : Msg} {tid : UInt64} (h : responseTid m = some tid)
    (hf : tbl.find tid = none) : (dispatchSt tbl m).1 = err .generic := by
  rw [dispatchSt_by_responseTid, h]; dsimp only; rw [hf]

theorem dispatchSt_response_kind {tbl : TxnTable} {m : Msg} {tid : UInt64} (h : responseTid m = some tid) {req : Bytes}
    (hf : tbl.find tid = some req) {p : Packet} (hp : (dispatchSt tbl m).1 = ok p) : respKind req = some p.kind := by
  rw [dispatchSt_by_responseTid, h] at hp; simp only [hf] at hp
  cases hk : ctorKind (Gen.Rtmp.parseResponseArm req) with
  | none => rw [ctorResult_none hk] at hp; cases hp
  | some k => rw [ctorResult_some hk, decodeWith_ok] at hp; exact hk.trans (congrArg some (unmarshal_kind hp).symm)

/-- `Skips k tbl pre tbl'`: every message of `pre` decodes (threading the table from `tbl` to `tbl'`)
to a packet that is not a `k`. -/
inductive Skips (k : Kind) : TxnTable → List Msg → TxnTable → Prop where
  | nil (tbl : TxnTable) : Skips k tbl [] tbl
  | cons (tbl tbl' tbl'' : TxnTable) (m : Msg) (ms : List Msg) (p : Packet) (hd : dispatchSt tbl m = (ok p, tbl'))
      (hk : p.kind ≠ k) (tl : Skips k tbl' ms tbl'') : Skips k tbl (m :: ms) tbl''

theorem expectPacket_skip {k : Kind} {pre : List Msg} {tbl tbl1 : TxnTable} (hs : Skips k tbl pre tbl1) (rest : List Msg) :
    expectPacket k tbl (pre ++ rest) = expectPacket k tbl1 rest := by
  induction hs with
  | nil tbl => rfl
  | cons tbl tbl' tbl'' m' ms p' hd' hk' _ ih => simp only [List.cons_append, expectPacket, hd', hk', if_false, ih]

theorem expectMessage_skip {types : List Nat} (hne : types ≠ []) {pre : List Msg} (hpre : ∀ x ∈ pre, x.hdr.ty ∉ types)
    (rest : List Msg) : expectMessage types (pre ++ rest) = expectMessage types rest := by
  induction pre with
  | nil => rfl
  | cons x xs ih =>
    have hx : ¬ (types.isEmpty ∨ x.hdr.ty ∈ types) := by simp [hne, hpre x (List.mem_cons_self ..)]
    rw [List.cons_append, expectMessage, if_neg hx]
    exact ih fun y hy => hpre y (List.mem_cons_of_mem _ hy)

end Oryx.RtmpPkt
