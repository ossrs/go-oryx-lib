/-
  Facts about the spec itself (`Oryx.Spec.Ws`): §5.3 masking; the §5.2 parser inverts the serialiser on well-formed
  frames; the spec receiver one frame at a time (`recvFrom_*`, `preOut`, `openAfter`). Used by C13 (`writer_wellformed`:
  the writer's wire parses back to the frames it emitted) and by the reader proofs, which run the reader model on
  `serialise` images and follow the receiver frame by frame (`frame_step`).
-/
import Oryx.Spec.Ws
namespace Oryx.Spec.Ws
open Oryx

theorem xorMask_involution (key : Bytes) (pos : Nat) (bs : Bytes) : xorMask key pos (xorMask key pos bs) = bs := by
  induction bs generalizing pos with
  | nil => rfl
  | cons b bs ih =>
    simp only [xorMask, ih]
    rw [UInt8.xor_assoc, UInt8.xor_self, UInt8.xor_zero]

theorem xorMask_length (key : Bytes) (pos : Nat) (bs : Bytes) : (xorMask key pos bs).length = bs.length := by
  induction bs generalizing pos with
  | nil => rfl
  | cons b bs ih => simp [xorMask, ih]

theorem xorMask_append (key : Bytes) (pos : Nat) (a b : Bytes) :
    xorMask key pos (a ++ b) = xorMask key pos a ++ xorMask key (pos + a.length) b := by
  induction a generalizing pos with
  | nil => rfl
  | cons x xs ih => simp only [List.cons_append, xorMask, ih, List.length_cons, Nat.add_assoc, Nat.add_comm 1]

/-! ### well-formed frames -/

theorem Frame.WF.opcode_lt {f : Frame} (h : f.WF) : f.opcode < 16 := h.1

theorem Frame.WF.payload_length {f : Frame} (h : f.WF) : f.payload.length = f.len := h.2.2.2.2.2.2

theorem Frame.WF.key_length {f : Frame} (h : f.WF) : f.key.length = if f.masked then 4 else 0 := by
  have hk := h.2.2.2.2.2.1
  cases hm : f.masked <;> simp [hm] at hk ⊢ <;> simp [hk]

theorem Frame.WF.lenForm_cases {f : Frame} (h : f.WF) :
    (f.lenForm = 0 ∧ len7 f = f.len ∧ extLen f = [] ∧ f.len < 126) ∨
    (f.lenForm = 1 ∧ len7 f = 126 ∧ extLen f = be 2 f.len ∧ f.len < 65536) ∨
    (f.lenForm = 2 ∧ len7 f = 127 ∧ extLen f = be 8 f.len ∧ f.len < 2 ^ 64) := by
  obtain ⟨_, hf, h0, h1, h2, _, _⟩ := h
  have hc : f.lenForm = 0 ∨ f.lenForm = 1 ∨ f.lenForm = 2 := by omega
  rcases hc with hc | hc | hc
  · exact .inl ⟨hc, by simp [len7, hc], by simp [extLen, hc], h0 hc⟩
  · exact .inr (.inl ⟨hc, by simp [len7, hc], by simp [extLen, hc], h1 hc⟩)
  · exact .inr (.inr ⟨hc, by simp [len7, hc], by simp [extLen, hc], h2 hc⟩)

theorem Frame.WF.len7_lt {f : Frame} (h : f.WF) : len7 f < 128 := by
  rcases h.lenForm_cases with ⟨_, e7, _, hl⟩ | ⟨_, e7, _⟩ | ⟨_, e7, _⟩ <;> rw [e7] <;> omega

theorem Frame.WF.len7_gt {f : Frame} (h : f.WF) :
    decide (len7 f > 125) = (decide (125 < f.len) || f.lenForm != 0) := by
  rcases h.lenForm_cases with ⟨hc, e7, _⟩ | ⟨hc, e7, _⟩ | ⟨hc, e7, _⟩ <;> rw [e7, hc] <;> simp

theorem wirePayload_length (f : Frame) : (wirePayload f).length = f.payload.length := by
  unfold wirePayload; split <;> simp [xorMask_length]

theorem Frame.WF.wirePayload_length {f : Frame} (h : f.WF) : (wirePayload f).length = f.len :=
  (Spec.Ws.wirePayload_length f).trans h.payload_length

/-! ### the wire image parses back -/

theorem byte0_fields (f : Frame) (h : f.opcode < 16) :
    decide ((byte0 f).toNat / 128 = 1) = f.fin ∧ decide ((byte0 f).toNat / 64 % 2 = 1) = f.rsv1 ∧
    decide ((byte0 f).toNat / 32 % 2 = 1) = f.rsv2 ∧ decide ((byte0 f).toNat / 16 % 2 = 1) = f.rsv3 ∧
    (byte0 f).toNat % 16 = f.opcode := by
  have key : ∀ (a b c d : Bool) (o : Fin 16),
      let n := (UInt8.ofNat (128 * b2n a + 64 * b2n b + 32 * b2n c + 16 * b2n d + o.val)).toNat
      decide (n / 128 = 1) = a ∧ decide (n / 64 % 2 = 1) = b ∧ decide (n / 32 % 2 = 1) = c ∧
      decide (n / 16 % 2 = 1) = d ∧ n % 16 = o.val := by decide +kernel
  exact key f.fin f.rsv1 f.rsv2 f.rsv3 ⟨f.opcode, h⟩

theorem byte1_fields (f : Frame) (h : len7 f < 128) :
    (byte1 f).toNat % 128 = len7 f ∧ decide ((byte1 f).toNat / 128 = 1) = f.masked := by
  have key : ∀ (m : Bool) (l : Fin 128),
      let n := (UInt8.ofNat (128 * b2n m + l.val)).toNat
      n % 128 = l.val ∧ decide (n / 128 = 1) = m := by decide +kernel
  exact key f.masked ⟨len7 f, h⟩

theorem parseFrame_serialise (f : Frame) (rest : Bytes) (h : f.WF) :
    parseFrame (serialise f ++ rest) = .ok (f, rest) := by
  obtain ⟨a1, a2, a3, a4, a5⟩ := byte0_fields f h.opcode_lt
  obtain ⟨b1, b2⟩ := byte1_fields f h.len7_lt
  have hmP : ((byte1 f).toNat / 128 = 1) = (f.masked = true) := by rw [← b2]; simp
  obtain ⟨hform, hextlen, hlenval⟩ :
      (if len7 f = 126 then 1 else if len7 f = 127 then 2 else 0) = f.lenForm ∧
      (extLen f).length = (if f.lenForm = 1 then 2 else if f.lenForm = 2 then 8 else 0) ∧
      (if f.lenForm = 0 then len7 f else ofBE (extLen f)) = f.len := by
    rcases h.lenForm_cases with ⟨hc, e7, ex, hl⟩ | ⟨hc, e7, ex, hl⟩ | ⟨hc, e7, ex, hl⟩ <;> rw [hc, e7, ex]
    · exact ⟨by rw [if_neg (by omega), if_neg (by omega)], rfl, rfl⟩
    · exact ⟨rfl, be_length 2 _, ofBE_be_of_lt (by omega)⟩
    · exact ⟨rfl, be_length 8 _, ofBE_be_of_lt (by omega)⟩
  have hkl := h.key_length
  have hwl := h.wirePayload_length
  have hkeyEq : (if f.masked then f.key else ([] : Bytes)) = f.key := by
    cases hm : f.masked
    · rw [hm] at hkl; exact (List.eq_nil_of_length_eq_zero hkl).symm
    · rfl
  have hpay : (if f.masked then xorMask f.key 0 (wirePayload f) else wirePayload f) = f.payload := by
    cases hm : f.masked <;> simp [wirePayload, hm, xorMask_involution]
  -- each segment is read back by `take`/`drop` of its own length
  simp only [serialise, List.cons_append, List.append_assoc, parseFrame, a1, a2, a3, a4, a5, b1, hmP, hform,
    List.take_left' hextlen, List.drop_left' hextlen, hextlen, hlenval, List.take_left' hkl, List.drop_left' hkl, hkl,
    List.take_left' hwl, List.drop_left' hwl, hwl, Nat.lt_irrefl, if_false, hkeyEq, hpay]
  simp

theorem parseAllF_serialiseAll (fs : List Frame) (h : ∀ f ∈ fs, f.WF) (fuel : Nat) (hf : fs.length ≤ fuel) :
    parseAllF fuel (serialiseAll fs) = .ok fs := by
  induction fs generalizing fuel with
  | nil => cases fuel <;> simp [serialiseAll, parseAllF]
  | cons f fs ih =>
    obtain ⟨n, rfl⟩ : ∃ n, fuel = n + 1 := ⟨fuel - 1, by simp at hf; omega⟩
    have hwf := h f (by simp)
    have hne : serialise f ++ serialiseAll fs ≠ [] := by simp [serialise]
    simp only [serialiseAll]
    cases hs : serialise f ++ serialiseAll fs with
    | nil => exact absurd hs hne
    | cons b bs =>
      rw [parseAllF]
      · rw [← hs, parseFrame_serialise f _ hwf]
        simp only
        rw [ih (fun g hg => h g (by simp [hg])) n (by simp at hf; omega)]
      · intro hh; cases hh

theorem serialiseAll_eq_flatten (fs : List Frame) : serialiseAll fs = (fs.map serialise).flatten := by
  induction fs with
  | nil => rfl
  | cons f fs ih => simp [serialiseAll, ih]

theorem serialiseAll_length (fs : List Frame) : 2 * fs.length ≤ (serialiseAll fs).length := by
  induction fs with
  | nil => simp [serialiseAll]
  | cons f fs ih => simp [serialiseAll, serialise]; omega

theorem parseAll_serialiseAll (fs : List Frame) (h : ∀ f ∈ fs, f.WF) : parseAll (serialiseAll fs) = .ok fs :=
  parseAllF_serialiseAll fs h _ (by have := serialiseAll_length fs; omega)

/-! ### opcode classes, the receiver one frame at a time -/

theorem opcode_cases (op : Nat) :
    (isControl op = true ∧ isDataStart op = false ∧ (op == 0) = false) ∨
    (isControl op = false ∧ isDataStart op = true ∧ (op == 0) = false) ∨
    (isControl op = false ∧ isDataStart op = false ∧ (op == 0) = true) ∨
    (isControl op = false ∧ isDataStart op = false ∧ (op == 0) = false) := by
  simp only [isControl, isDataStart, Bool.or_eq_true, Bool.or_eq_false_iff, beq_iff_eq, beq_eq_false_iff_ne]
  omega

theorem opcode_of_violation_false {r : Role} {d inMsg : Bool} {f : Frame} (h : violation r d inMsg f = false) :
    f.opcode = 8 ∨ f.opcode = 9 ∨ f.opcode = 10 ∨ (f.opcode = 0 ∧ inMsg = true) ∨
      ((f.opcode = 1 ∨ f.opcode = 2) ∧ inMsg = false) := by
  unfold violation at h
  simp only [Bool.or_eq_false_iff] at h
  obtain ⟨⟨⟨⟨⟨⟨⟨_, hk⟩, _⟩, h0⟩, hd⟩, _⟩, _⟩, _⟩ := h
  simp only [Bool.not_eq_false', knownOpcode, isDataStart, isControl, Bool.or_eq_true, beq_iff_eq,
    Bool.and_eq_false_imp] at hk h0 hd
  cases inMsg <;> simp at h0 hd ⊢ <;> omega

/-- A receiver outcome with messages and replies put in front: the outcome on `f :: fs` from that on `fs`. -/
def preOut (ms : List Msg) (rs : List (Nat × Bytes)) (r : RecvOut) : RecvOut :=
  { msgs := ms ++ r.msgs, replies := rs ++ r.replies, fin := r.fin }

@[simp] theorem preOut_msgs (ms : List Msg) (rs : List (Nat × Bytes)) (r : RecvOut) :
    (preOut ms rs r).msgs = ms ++ r.msgs := rfl
@[simp] theorem preOut_replies (ms : List Msg) (rs : List (Nat × Bytes)) (r : RecvOut) :
    (preOut ms rs r).replies = rs ++ r.replies := rfl
@[simp] theorem preOut_fin (ms : List Msg) (rs : List (Nat × Bytes)) (r : RecvOut) : (preOut ms rs r).fin = r.fin := rfl

theorem preOut_preOut (ms ms' : List Msg) (rs rs' : List (Nat × Bytes)) (r : RecvOut) :
    preOut ms rs (preOut ms' rs' r) = preOut (ms ++ ms') (rs ++ rs') r := by
  simp [preOut, List.append_assoc]

theorem recvFrom_viol (r : Role) (d : Bool) (cap : Nat) (st : Option Open) (f : Frame) (fs : List Frame)
    (h : violation r d st.isSome f = true) :
    recvFrom r d cap st (f :: fs) = { msgs := [], replies := [(8, be 2 1002)], fin := .fail 1002 } := by
  simp [recvFrom, h]

theorem recvFrom_ping (r : Role) (d : Bool) (cap : Nat) (st : Option Open) (f : Frame) (fs : List Frame)
    (h : violation r d st.isSome f = false) (hop : f.opcode = 9) :
    recvFrom r d cap st (f :: fs) = preOut [] [(10, f.payload)] (recvFrom r d cap st fs) := by
  simp [recvFrom, h, hop, preOut]

theorem recvFrom_pong (r : Role) (d : Bool) (cap : Nat) (st : Option Open) (f : Frame) (fs : List Frame)
    (h : violation r d st.isSome f = false) (hop : f.opcode = 10) :
    recvFrom r d cap st (f :: fs) = recvFrom r d cap st fs := by
  simp [recvFrom, h, hop]

theorem recvFrom_close (r : Role) (d : Bool) (cap : Nat) (st : Option Open) (f : Frame) (fs : List Frame)
    (h : violation r d st.isSome f = false) (hop : f.opcode = 8) :
    recvFrom r d cap st (f :: fs) =
      { msgs := [], replies := [(8, if f.payload.length < 2 then [] else f.payload.take 2)],
        fin := if f.payload.length < 2 then .closed 1005 [] else .closed (ofBE (f.payload.take 2)) (f.payload.drop 2) } := by
  simp only [recvFrom, h, hop, Nat.reduceBEq, Bool.false_eq_true, if_false, if_true]
  split <;> rfl

/-- the open-message record after accepting data frame `f` -/
def openAfter (st : Option Open) (f : Frame) : Open :=
  match st with
  | some o => { o with acc := o.acc ++ f.payload, total := o.total + f.len }
  | none => { ty := f.opcode, compressed := f.rsv1, acc := f.payload, total := f.len }

theorem openAfter_none (f : Frame) :
    openAfter none f = { ty := f.opcode, compressed := f.rsv1, acc := f.payload, total := f.len } := rfl

theorem openAfter_some (o : Open) (f : Frame) :
    openAfter (some o) f = { o with acc := o.acc ++ f.payload, total := o.total + f.len } := rfl

theorem openAfter_total (st : Option Open) (f : Frame) : (openAfter st f).total = st.elim 0 Open.total + f.len := by
  cases st <;> simp [openAfter]

theorem openAfter_acc (st : Option Open) (f : Frame) : (openAfter st f).acc = st.elim [] Open.acc ++ f.payload := by
  cases st <;> rfl

theorem recvFrom_data (r : Role) (d : Bool) (cap : Nat) (st : Option Open) (f : Frame) (fs : List Frame)
    (h : violation r d st.isSome f = false) (hop : f.opcode = 0 ∨ f.opcode = 1 ∨ f.opcode = 2) :
    recvFrom r d cap st (f :: fs) =
      if cap < (openAfter st f).total then { msgs := [], replies := [(8, be 2 1009)], fin := .fail 1009 }
      else if f.fin then
        preOut [{ ty := (openAfter st f).ty, compressed := (openAfter st f).compressed, data := (openAfter st f).acc }] []
          (recvFrom r d cap none fs)
      else recvFrom r d cap (some (openAfter st f)) fs := by
  have hne : (f.opcode == 9) = false ∧ (f.opcode == 10) = false ∧ (f.opcode == 8) = false := by
    simp only [beq_eq_false_iff_ne]; omega
  cases st with
  | none =>
    simp only [recvFrom, show violation r d false f = false from h, hne, openAfter, Option.isSome,
      Bool.false_eq_true, if_false, List.nil_append, Nat.zero_add]
    rfl
  | some o =>
    simp only [recvFrom, show violation r d true f = false from h, hne, openAfter, Option.isSome,
      Bool.false_eq_true, if_false]
    rfl

theorem recvFrom_fail_reply (r : Role) (d : Bool) (cap : Nat) (fs : List Frame) :
    ∀ st, (recvFrom r d cap st fs).fin = .fail 1002 → (8, be 2 1002) ∈ (recvFrom r d cap st fs).replies := by
  induction fs with
  | nil => intro st h; simp [recvFrom] at h
  | cons f fs ih =>
    intro st h
    by_cases hv : violation r d st.isSome f = true
    · rw [recvFrom_viol r d cap st f fs hv]; simp
    · have hv' : violation r d st.isSome f = false := by simpa using hv
      rcases opcode_of_violation_false hv' with h8 | h9 | h10 | hdat
      · rw [recvFrom_close r d cap st f fs hv' h8] at h
        split at h <;> cases h
      · rw [recvFrom_ping r d cap st f fs hv' h9] at h ⊢
        exact List.mem_cons_of_mem _ (ih st h)
      · rw [recvFrom_pong r d cap st f fs hv' h10] at h ⊢
        exact ih st h
      · rw [recvFrom_data r d cap st f fs hv' (by omega)] at h ⊢
        split at h
        · cases h
        · rename_i hc; rw [if_neg hc]
          split at h
          · rename_i hf; rw [if_pos hf]; exact ih none h
          · rename_i hf; rw [if_neg hf]; exact ih _ h

end Oryx.Spec.Ws
