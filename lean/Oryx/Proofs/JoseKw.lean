/-
  RFC 3394 key wrap as written in cipher/key_wrap.go: `KeyUnwrap (KeyWrap cek) = cek` for ANY
  invertible 16-byte block function and every `cek` whose length is a multiple of 8.
-/
import Oryx.Model.Jose
namespace Oryx.Jose
open Oryx Oryx.Res

/-- The block-cipher assumption: on 16-byte blocks, `enc` keeps the length and `dec` inverts it. -/
def BlockPerm (enc dec : Bytes → Bytes) : Prop :=
  ∀ b : Bytes, b.length = 16 → (enc b).length = 16 ∧ dec (enc b) = b

theorem xorBytes_cancel (a m : Bytes) (h : a.length = m.length) : xorBytes (xorBytes a m) m = a :=
  List.ext_getElem (by simp [xorBytes, h]) fun i _ _ => by
    simp only [xorBytes, List.getElem_zipWith, UInt8.xor_assoc, UInt8.xor_self, UInt8.xor_zero]

theorem xorBytes_length (a m : Bytes) (h : a.length = m.length) : (xorBytes a m).length = a.length := by
  simp [xorBytes, h]

/-- Shape invariant of the loop state: `A` is 8 bytes, `R` is `n` blocks of 8 bytes. -/
structure KwInv (n : Nat) (s : KwState) : Prop where
  a : s.a.length = 8
  r : s.r.length = n
  blocks : ∀ x ∈ s.r, x.length = 8

theorem KwInv.getD_length {n : Nat} {s : KwState} (h : KwInv n s) {i : Nat} (hi : i < s.r.length) :
    (s.r.getD i []).length = 8 := by
  rw [← List.getElem_eq_getD (h := hi)]
  exact h.blocks _ (List.getElem_mem hi)

/-- One iteration keeps the shape, and `unwrapStep` undoes it. -/
theorem wrapStep_spec {enc dec : Bytes → Bytes} (hp : BlockPerm enc dec) {n t : Nat} (hn : 0 < n)
    {s : KwState} (h : KwInv n s) :
    KwInv n (wrapStep enc n t s) ∧ unwrapStep dec n t (wrapStep enc n t s) = s := by
  have hi : t % n < s.r.length := by rw [h.r]; exact Nat.mod_lt t hn
  obtain ⟨hlen, hdec⟩ := hp (s.a ++ s.r.getD (t % n) []) (by rw [List.length_append, h.a, h.getD_length hi])
  unfold wrapStep
  generalize enc (s.a ++ s.r.getD (t % n) []) = B at hlen hdec
  have ht : (B.take 8).length = (be 8 (t + 1)).length := by rw [be_length, List.length_take, hlen]; rfl
  constructor
  · refine ⟨by rw [xorBytes_length _ _ ht, ht, be_length], ?_, fun x hx => ?_⟩
    · show (s.r.set (t % n) (B.drop 8)).length = n
      rw [List.length_set, h.r]
    · rcases List.mem_or_eq_of_mem_set hx with hx | rfl
      · exact h.blocks x hx
      · rw [List.length_drop, hlen]
  · simp only [unwrapStep]
    rw [xorBytes_cancel _ _ ht, List.getD_eq_getElem?_getD, List.getElem?_set_self hi, Option.getD_some,
      List.take_append_drop, hdec, take_append_len _ _ h.a, drop_append_len _ _ h.a, List.set_set,
      ← List.getElem_eq_getD (h := hi), List.set_getElem_self hi]

/-- `n = 0` (the empty key) is allowed where no iteration runs. -/
theorem wrapUpTo_spec {enc dec : Bytes → Bytes} (hp : BlockPerm enc dec) {n : Nat} {s : KwState} (h : KwInv n s) :
    ∀ c, (c ≠ 0 → 0 < n) → KwInv n (wrapUpTo enc n c s) ∧ unwrapDown dec n c (wrapUpTo enc n c s) = s
  | 0, _ => ⟨h, rfl⟩
  | c+1, hn => by
    obtain ⟨hinv, hback⟩ := wrapUpTo_spec hp h c fun _ => hn nofun
    obtain ⟨hinv', hback'⟩ := wrapStep_spec (t := c) hp (hn nofun) hinv
    exact ⟨hinv', by rw [unwrapDown, wrapUpTo, hback', hback]⟩

theorem chunks8_length (n : Nat) (b : Bytes) : (chunks8 n b).length = n := by
  induction n generalizing b with
  | zero => rfl
  | succ n ih => simp [chunks8, ih]

theorem chunks8_blocks_flatten : ∀ (n : Nat) (b : Bytes), b.length = 8 * n →
    (∀ x ∈ chunks8 n b, x.length = 8) ∧ (chunks8 n b).flatten = b
  | 0, _, h => ⟨List.forall_mem_nil _, (List.length_eq_zero_iff.1 h).symm⟩
  | n+1, b, h => by
    obtain ⟨hb, hf⟩ := chunks8_blocks_flatten n (b.drop 8) (by rw [List.length_drop]; omega)
    refine ⟨List.forall_mem_cons.2 ⟨by rw [List.length_take]; omega, hb⟩, ?_⟩
    rw [chunks8, List.flatten_cons, hf, List.take_append_drop]

theorem flatten_blocks_length (r : List Bytes) (h : ∀ x ∈ r, x.length = 8) : r.flatten.length = 8 * r.length := by
  rw [List.length_flatten, List.map_congr_left h, List.map_const', List.sum_replicate_nat, Nat.mul_comm]

theorem chunks8_of_flatten (r : List Bytes) (h : ∀ x ∈ r, x.length = 8) : chunks8 r.length r.flatten = r := by
  induction r with
  | nil => rfl
  | cons x xs ih =>
    have hx := h x (by simp)
    simp only [List.length_cons, chunks8, List.flatten_cons]
    rw [take_append_len _ _ hx, drop_append_len _ _ hx, ih (fun y hy => h y (List.mem_cons_of_mem _ hy))]

theorem keyUnwrap_keyWrap {enc dec : Bytes → Bytes} (hp : BlockPerm enc dec) (cek : Bytes)
    (h8 : cek.length % 8 = 0) :
    ∃ w, keyWrap enc cek = ok w ∧ w.length = cek.length + 8 ∧ keyUnwrap dec w = ok cek := by
  have hlen : cek.length = 8 * (cek.length / 8) := by omega
  generalize hn : cek.length / 8 = n at hlen
  obtain ⟨hblocks, hflat⟩ := chunks8_blocks_flatten n cek hlen
  have h0 : KwInv n { a := defaultIV, r := chunks8 n cek } := ⟨rfl, chunks8_length n cek, hblocks⟩
  obtain ⟨hinv, hback⟩ := wrapUpTo_spec hp h0 (6 * n) (by omega)
  generalize hs : wrapUpTo enc n (6 * n) { a := defaultIV, r := chunks8 n cek } = s at hinv hback
  have hwl : (s.a ++ s.r.flatten).length = 8 * n + 8 := by
    rw [List.length_append, hinv.a, flatten_blocks_length s.r hinv.blocks, hinv.r]; omega
  refine ⟨s.a ++ s.r.flatten, by simp [keyWrap, h8, hn, hs], by omega, ?_⟩
  have hr : chunks8 n s.r.flatten = s.r := hinv.r ▸ chunks8_of_flatten s.r hinv.blocks
  rw [keyUnwrap, if_neg (by omega)]
  simp only [show (s.a ++ s.r.flatten).length / 8 - 1 = n by omega, take_append_len _ _ hinv.a,
    drop_append_len _ _ hinv.a, hr, hback]
  rw [if_pos trivial, hflat]

theorem toy_perm (k : Nat) : BlockPerm (toyEnc k) (toyDec k) := by
  intro b hb
  -- `c`: the bytes with their offsets added; `toyEnc` rotates `c` by 5, `toyDec` rotates back and subtracts
  generalize hc : ((List.zipIdx b).map fun p => p.1 + UInt8.ofNat (k + 7 * p.2)) = c
  have hl : c.length = 16 := by rw [← hc, List.length_map, List.length_zipIdx, hb]
  have h11 : (c.drop 5).length = 11 := by rw [List.length_drop, hl]
  have hlen : (toyEnc k b).length = 16 := by
    simp only [toyEnc, hc, List.length_append, h11, List.length_take, hl]; rfl
  refine ⟨hlen, ?_⟩
  rw [toyDec, hlen]
  simp only [toyEnc, hc]
  rw [drop_append_len _ _ h11, take_append_len _ _ h11, List.take_append_drop, ← hc]
  exact List.ext_getElem (by simp) fun i _ _ => by simp

end Oryx.Jose
