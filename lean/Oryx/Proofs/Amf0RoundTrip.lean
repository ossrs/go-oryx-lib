/-
  C05: the round trip `decodeVal fuel (encode v ++ rest) = ok (v, rest)` for every well-formed value,
  by mutual structural induction over `Val` / `Props` (object-like loop and counted loop). Fuel
  `size v` is enough whatever follows the encoding (every key is at least two bytes, every value at
  least one); `rtVal` / `rtProps` / `rtElems` restate it with the fuel measured against the whole
  input, as `decode` supplies it (`decode_encode`).
-/
import Oryx.Proofs.Amf0
namespace Oryx.Amf0
open Oryx Oryx.Res

theorem encode_head {v : Val} (h : wf v = true) :
    ∃ m tl, encode v = m :: tl ∧ Gen.Amf0.discovery m.toNat ≠ .objectEOF := by
  cases v <;> first | exact ⟨_, _, rfl, by decide⟩ | cases h

theorem propBody_encode {fuel : Nat} (k : Bytes) {v : Val} {X : Bytes} {rec : Bytes → Res (Props × Bytes)}
    {tl : Props} {rest : Bytes} (ihv : decodeVal fuel (encode v ++ X) = ok (v, X))
    (iht : rec X = ok (tl, rest)) : propBody fuel k (encode v ++ X) rec = ok (.cons k v tl, rest) := by
  simp only [propBody, ihv, Res.bind_ok, sliceFrom_append _ _ (encode_length v), iht, Res.pure_eq]

mutual
theorem decodeVal_encode (v : Val) (rest : Bytes) (fuel : Nat) (h : wf v = true) (hf : size v ≤ fuel) :
    decodeVal fuel (encode v ++ rest) = ok (v, rest) := by
  obtain ⟨f, rfl⟩ := Nat.exists_eq_add_one.2 (Nat.lt_of_lt_of_le (size_pos v) hf)
  match v, h, hf with
  | .num b, _, _ =>
    show decodeVal (f+1) (0 :: (be 8 b.toNat ++ rest)) = _
    rw [decodeVal_num_append f (be_length 8 _), UInt64.ofNat_ofBE_be]
  | .bool b, _, _ => cases b <;> rfl
  | .str s, h, _ =>
    show decodeVal (f+1) (2 :: (utf8Enc s ++ rest)) = _
    rw [decodeVal_str, utf8Dec_enc (wf_str.1 h)]; rfl
  | .null, _, _ => rfl
  | .undef, _, _ => rfl
  | .obj ps, h, hf =>
    show decodeVal (f+1) (3 :: ((encodeP ps ++ eofBytes) ++ rest)) = _
    rw [decodeVal_obj, List.append_assoc, show eofBytes ++ rest = 0 :: 0 :: 9 :: rest from rfl,
      decodeProps_encode ps rest f h (by simp only [size] at hf; omega)]; rfl
  | .ecma c ps, h, hf =>
    obtain ⟨hc, hps⟩ := wf_ecma.1 h
    show decodeVal (f+1) (8 :: ((be 4 c ++ (encodeP ps ++ eofBytes)) ++ rest)) = _
    rw [List.append_assoc, decodeVal_ecma_append f (be_length 4 c), ofBE_be_of_lt hc, List.append_assoc,
      show eofBytes ++ rest = 0 :: 0 :: 9 :: rest from rfl,
      decodeProps_encode ps rest f hps (by simp only [size] at hf; omega)]; rfl
  | .strict ps, h, hf =>
    obtain ⟨hc, hps⟩ := wf_strict.1 h
    show decodeVal (f+1) (10 :: ((be 4 ps.length ++ encodeP ps) ++ rest)) = _
    rw [List.append_assoc, decodeVal_strict_append f (be_length 4 _), ofBE_be_of_lt hc,
      decodeElems_encode ps rest f hps (by simp only [size] at hf; omega)]; rfl
theorem decodeProps_encode (ps : Props) (rest : Bytes) (fuel : Nat) (h : wfP ps = true)
    (hf : sizeP ps + 3 ≤ fuel) : decodeProps fuel (encodeP ps ++ (0 :: 0 :: 9 :: rest)) = ok (ps, rest) := by
  obtain ⟨f, rfl⟩ := Nat.exists_eq_add_one.2 (Nat.lt_of_lt_of_le (Nat.succ_pos _) hf)
  match ps, h, hf with
  | .nil, _, _ => rfl
  | .cons k v tl, h, hf =>
    obtain ⟨hk, hv, htl⟩ := wfP_cons.1 h
    simp only [sizeP, utf8Size] at hf
    have hs := size_pos v
    have hb := propBody_encode k (decodeVal_encode v _ f hv (by omega))
      (decodeProps_encode tl rest f htl (by omega))
    obtain ⟨m, t, he, hm⟩ := encode_head hv
    simp only [encodeP, List.append_assoc, decodeProps_succ, utf8Dec_enc hk, Res.bind_ok]
    rw [he, List.cons_append] at hb ⊢
    simp only [hm, and_false, if_false]
    exact hb
theorem decodeElems_encode (ps : Props) (rest : Bytes) (fuel : Nat) (h : wfP ps = true)
    (hf : sizeP ps ≤ fuel) : decodeElems fuel ps.length (encodeP ps ++ rest) = ok (ps, rest) := by
  match ps, h, hf with
  | .nil, _, _ => exact decodeElems_zero fuel rest
  | .cons k v tl, h, hf =>
    obtain ⟨hk, hv, htl⟩ := wfP_cons.1 h
    simp only [sizeP, utf8Size] at hf
    have hs := size_pos v
    obtain ⟨f, rfl⟩ : ∃ f, fuel = f + 1 := ⟨fuel - 1, by omega⟩
    have hb := propBody_encode k (decodeVal_encode v _ f hv (by omega))
      (decodeElems_encode tl rest f htl (by omega))
    simp only [encodeP, List.append_assoc, Props.length, decodeElems_succ, utf8Dec_enc hk, Res.bind_ok]
    exact hb
end

theorem rtVal (v : Val) (rest : Bytes) (fuel : Nat) (h : wf v = true)
    (hf : (encode v ++ rest).length < fuel) : decodeVal fuel (encode v ++ rest) = ok (v, rest) :=
  decodeVal_encode v rest fuel h (by rw [List.length_append, encode_length] at hf; omega)

theorem decode_encode {v : Val} (h : wf v = true) (rest : Bytes) : decode (encode v ++ rest) = ok (v, rest) :=
  rtVal v rest _ h (Nat.lt_succ_self _)

theorem rtProps (ps : Props) (rest : Bytes) (fuel : Nat) (h : wfP ps = true)
    (hf : (encodeP ps ++ (0 :: 0 :: 9 :: rest)).length < fuel) :
    decodeProps fuel (encodeP ps ++ (0 :: 0 :: 9 :: rest)) = ok (ps, rest) :=
  decodeProps_encode ps rest fuel h (by
    simp only [List.length_append, encodeP_length, List.length_cons] at hf; omega)

theorem rtElems : ∀ (ps : Props) (rest : Bytes) (fuel : Nat), wfP ps = true →
    (encodeP ps ++ rest).length < fuel →
    decodeElems fuel ps.length (encodeP ps ++ rest) = ok (ps, rest) :=
  fun ps rest fuel h hf => decodeElems_encode ps rest fuel h (by
    rw [List.length_append, encodeP_length] at hf; omega)

end Oryx.Amf0
