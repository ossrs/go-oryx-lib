/-
  C08 — the generic cut lemma for stream parsers over a transport that ends or fails.

  `CutG E p`: whenever `p` succeeds on a stream (for some transport error `t0`) having consumed `n` bytes, then
  on EVERY prefix `take k` of that stream and for EVERY transport error `t`:
    * `k ≥ n`  →  the same value, remainder `take (k - n) rest`     (prefix-monotone; success never depends on `t`)
    * `k < n`  →  an error whose root cause satisfies `E t`:
         `Cut  = CutG endFull` (io.ReadFull rule): `root t`; for a stream that ENDS (`t = 0`, io.EOF) possibly
                                                   io.ErrUnexpectedEOF (`root 1`) instead;
         `CutN = CutG endCopy` (io.CopyN rule):    exactly `root t`
       — never a value, never another error.
  It holds for the primitives (`readFullE`, `copyNE`) and is closed under `bind`, `pure`, branching, lifting of
  stream-independent computations and under every error-mapping that PRESERVES THE CAUSE (`Wrap`, `WithMessage`):
  a wrap site that swallows or replaces the transport's error is exactly what makes it unprovable.
-/
import Oryx.Proofs.Errors
namespace Oryx.Errors
open Oryx

/-- What the root cause of a starved read may be, given the transport's error `t`. -/
abbrev EndRel := Nat → Err → Prop

/-- `io.ReadFull` rule: the transport's own error (`root t`), or io.ErrUnexpectedEOF when the transport merely
ended (`t = 0`) in the middle of a fixed-size read. -/
def endFull : EndRel := fun t c => c = .root t ∨ (t = 0 ∧ c = .root 1)

/-- `io.CopyN` rule: exactly the transport's error (io.EOF for a stream that ends). -/
def endCopy : EndRel := fun t c => c = .root t

def EndErr (E : EndRel) (t : Nat) (r : ResE α) : Prop := ∃ e, r = .err e ∧ E t e.cause

def CutG (E : EndRel) (p : SP α) : Prop :=
  ∀ t0 bs a rest, p t0 bs = .ok (a, rest) →
    ∃ n, bs.length = n + rest.length ∧ ∀ t k,
      (n ≤ k → p t (bs.take k) = .ok (a, rest.take (k - n))) ∧ (k < n → EndErr E t (p t (bs.take k)))

abbrev Cut (p : SP α) : Prop := CutG endFull p

abbrev CutN (p : SP α) : Prop := CutG endCopy p

theorem CutG.mono {E E' : EndRel} (h : ∀ t c, E t c → E' t c) {p : SP α} (hp : CutG E p) : CutG E' p := by
  intro t0 bs a rest hok
  obtain ⟨n, hl, hk⟩ := hp t0 bs a rest hok
  refine ⟨n, hl, fun t k => ⟨(hk t k).1, fun hlt => ?_⟩⟩
  obtain ⟨e, he, hc⟩ := (hk t k).2 hlt
  exact ⟨e, he, h _ _ hc⟩

theorem CutN.cut {p : SP α} (hp : CutN p) : Cut p := hp.mono fun _ _ h => Or.inl h

theorem endFull.inject {t : Nat} {c : Err} (ht : t ≠ 0) (h : endFull t c) : c = .root t := by
  rcases h with h | ⟨h0, _⟩
  · exact h
  · exact absurd h0 ht

theorem endFull.cut {t : Nat} {c : Err} (h0 : t = 0) (h : endFull t c) : c = .root 0 ∨ c = .root 1 := by
  subst h0
  exact h.imp_right And.right

theorem endFull_shortRoot (t len : Nat) : endFull t (.root (shortRoot t len)) := by
  unfold shortRoot
  by_cases ht : t = 0
  · subst ht
    by_cases h0 : len = 0
    · rw [if_pos rfl, if_pos h0]; exact Or.inl rfl
    · rw [if_pos rfl, if_neg h0]; exact Or.inr ⟨rfl, rfl⟩
  · rw [if_neg ht]; exact Or.inl rfl

variable {E : EndRel}

theorem EndErr.bind {p : SP α} {f : α → SP β} {t s : Nat} {bs : Bytes} (h : EndErr E t (p s bs)) :
    EndErr E t ((p >>= f) s bs) := by
  obtain ⟨e, he, hc⟩ := h
  exact ⟨e, SP.bind_of_err he, hc⟩

theorem EndErr.mapErr {p : SP α} {f : Err → Err} {t s : Nat} {bs : Bytes} (hf : ∀ e, (f e).cause = e.cause)
    (h : EndErr E t (p s bs)) : EndErr E t ((p.mapErr f) s bs) := by
  obtain ⟨e, he, hc⟩ := h
  exact ⟨f e, by rw [SP.mapErr_apply, he], by rw [hf]; exact hc⟩

theorem CutG.ok_indep {p : SP α} (hp : CutG E p) {t0 : Nat} {bs : Bytes} {v : α × Bytes} (h : p t0 bs = .ok v) (t : Nat) :
    p t bs = .ok v := by
  obtain ⟨a, rest⟩ := v
  obtain ⟨n, hl, hk⟩ := hp t0 bs a rest h
  have := (hk t bs.length).1 (by omega)
  rw [List.take_length] at this
  rw [this, List.take_of_length_le (by omega)]

theorem CutG.consumes {p : SP α} (hp : CutG E p) (hnil : ∀ t a r, p t [] ≠ .ok (a, r))
    {t0 : Nat} {bs : Bytes} {a : α} {rest : Bytes} (h : p t0 bs = .ok (a, rest)) : rest.length < bs.length := by
  obtain ⟨n, hl, hk⟩ := hp t0 bs a rest h
  by_cases hn : n = 0
  · have := (hk t0 0).1 (by omega)
    simp only [List.take_zero] at this
    exact absurd this (hnil _ _ _)
  · omega

theorem CutG.take {p : SP α} (hp : CutG E p) {t0 : Nat} {bs rest : Bytes} {a : α}
    (h : p t0 bs = .ok (a, rest)) (t k : Nat) :
    (bs.length - rest.length ≤ k → p t (bs.take k) = .ok (a, rest.take (k - (bs.length - rest.length)))) ∧
    (k < bs.length - rest.length → EndErr E t (p t (bs.take k))) := by
  obtain ⟨n, hl, hk⟩ := hp t0 bs a rest h
  rw [hl, Nat.add_sub_cancel]
  exact hk t k

theorem CutG.append {p : SP α} (hp : CutG E p) {t0 : Nat} {W rest : Bytes} {a : α}
    (h : p t0 (W ++ rest) = .ok (a, rest)) (t k : Nat) :
    (W.length ≤ k → p t ((W ++ rest).take k) = .ok (a, rest.take (k - W.length))) ∧
    (k < W.length → EndErr E t (p t ((W ++ rest).take k))) := by
  have := hp.take h t k
  rwa [List.length_append, Nat.add_sub_cancel] at this

theorem CutG.starved {p : SP α} (hp : CutG E p) {t0 : Nat} {W rest : Bytes} {a : α}
    (h : p t0 (W ++ rest) = .ok (a, rest)) (t : Nat) {k : Nat} (hk : k < W.length) : EndErr E t (p t (W.take k)) := by
  rw [← List.take_append_of_le_length (l₂ := rest) (Nat.le_of_lt hk)]
  exact (hp.append h t k).2 hk

theorem CutG.pure (a : α) : CutG E (pure a : SP α) := by
  intro t0 bs a' rest h
  rw [SP.pure_apply] at h
  cases h
  refine ⟨0, by simp, fun t k => ⟨fun _ => ?_, fun hk => absurd hk (by omega)⟩⟩
  rw [SP.pure_apply]; simp

theorem CutG.fail (e : Err) : CutG E (SP.fail e : SP α) := by
  intro t0 bs a rest h; cases h

theorem CutG.panic : CutG E (SP.panic : SP α) := by
  intro t0 bs a rest h; cases h

theorem CutG.lift (r : Res α) : CutG E (SP.lift r) := by
  cases r with
  | ok x => exact CutG.pure x
  | err k => intro _ _ _ _ h; cases h
  | panic => intro _ _ _ _ h; cases h

theorem CutG.bind {p : SP α} {f : α → SP β} (hp : CutG E p) (hf : ∀ a, CutG E (f a)) : CutG E (p >>= f) := by
  intro t0 bs b rest2 h
  obtain ⟨a, r1, h1, h2⟩ := SP.bind_eq_ok h
  obtain ⟨n1, hl1, hk1⟩ := hp t0 bs a r1 h1
  obtain ⟨n2, hl2, hk2⟩ := hf a t0 r1 b rest2 h2
  refine ⟨n1 + n2, by rw [hl1, hl2, Nat.add_assoc], fun t k => ⟨fun hk => ?_, fun hk => ?_⟩⟩
  · rw [SP.bind_of_ok ((hk1 t k).1 (Nat.le_trans (Nat.le_add_right _ _) hk)), (hk2 t (k - n1)).1 (Nat.le_sub_of_add_le' hk),
      Nat.sub_sub]
  · by_cases hlt : k < n1
    · exact ((hk1 t k).2 hlt).bind
    · rw [SP.bind_of_ok ((hk1 t k).1 (Nat.le_of_not_lt hlt))]
      exact (hk2 t (k - n1)).2 (Nat.sub_lt_left_of_lt_add (Nat.le_of_not_lt hlt) hk)

theorem CutG.mapErr {p : SP α} {f : Err → Err} (hp : CutG E p) (hf : ∀ e, (f e).cause = e.cause) :
    CutG E (p.mapErr f) := by
  intro t0 bs a rest h
  obtain ⟨n, hl, hk⟩ := hp t0 bs a rest (SP.mapErr_ok.mp h)
  exact ⟨n, hl, fun t k => ⟨fun hle => SP.mapErr_ok.mpr ((hk t k).1 hle), fun hlt => ((hk t k).2 hlt).mapErr hf⟩⟩

theorem CutG.wrap {p : SP α} (msg : String) (hp : CutG E p) : CutG E (p.wrap msg) :=
  hp.mapErr fun _ => rfl

theorem CutG.withMessage {p : SP α} (msg : String) (hp : CutG E p) : CutG E (p.withMessage msg) :=
  hp.mapErr fun _ => rfl

theorem CutG.ite {c : Prop} [Decidable c] {p q : SP α} (hp : CutG E p) (hq : CutG E q) :
    CutG E (if c then p else q) := by
  split <;> assumption

theorem CutG.takeN (n : Nat) (r : Nat → Bytes → Nat) (hr : ∀ t bs, E t (.root (r t bs))) {p : SP Bytes}
    (hp : ∀ t bs, p t bs = if bs.length < n then .err (.root (r t bs)) else .ok (bs.take n, bs.drop n)) : CutG E p := by
  intro t0 bs a rest h
  by_cases hl : bs.length < n
  · rw [hp, if_pos hl] at h; cases h
  rw [hp, if_neg hl] at h
  cases h
  refine ⟨n, by rw [List.length_drop, Nat.add_sub_cancel' (Nat.le_of_not_lt hl)], fun t k => ⟨fun hk => ?_, fun hk => ?_⟩⟩
  · rw [hp, if_neg (by rw [List.length_take]; exact Nat.not_lt_of_le (Nat.le_min.mpr ⟨hk, Nat.le_of_not_lt hl⟩)),
      List.take_take, Nat.min_eq_left hk, List.drop_take]
  · rw [hp, if_pos (Nat.lt_of_le_of_lt (List.length_take_le _ _) hk)]
    exact ⟨_, rfl, hr t _⟩

theorem cut_readFullE (n : Nat) : Cut (readFullE n) := by
  by_cases hn : n = 0
  · have : readFullE n = pure [] := by funext t bs; rw [readFullE_eq, if_pos hn]; rfl
    rw [this]; exact CutG.pure _
  · exact CutG.takeN n (fun t bs => shortRoot t bs.length) (fun t bs => endFull_shortRoot t _)
      fun t bs => by rw [readFullE_eq, if_neg hn]

theorem cutN_copyNE (n : Nat) : CutN (copyNE n) :=
  CutG.takeN (E := endCopy) n (fun t _ => t) (fun _ _ => rfl) (copyNE_eq n)

end Oryx.Errors
