/-
  C08 — the RTMP read path over a transport that ends or fails: every reader has the cut property and erases to its
  class-only model of C01 (`lifts_…`, one walk along the definition for both), what a reader returns on an exhausted
  stream (`…_nil`: the transport's own error) and, from it, that a successful read consumes input (`…_consumes`),
  hence fuel independence.
-/
import Oryx.Proofs.IoFault.Erase
import Oryx.Model.IoFault
import Oryx.Proofs.Rtmp.Session
namespace Oryx.IoFault
open Oryx Oryx.Errors Oryx.Rtmp

theorem lifts_readBasicHeaderE : Lifts endFull readBasicHeaderE readBasicHeader := by
  unfold readBasicHeaderE readBasicHeader
  refine .bind ((lifts_readFullE 1).wrap _) fun b => .ite (.pure _) ?_
  refine .bind ((lifts_readFullE 1).wrap _) fun b2 => .ite ?_ (.pure _)
  exact .bind ((lifts_readFullE 1).wrap _) fun b3 => .pure _

theorem lifts_readMessageHeaderE (c : ChunkStream) (fmt : Nat) :
    Lifts endFull (readMessageHeaderE c fmt) (readMessageHeader c fmt) := by
  unfold readMessageHeaderE readMessageHeader
  refine .ite .fail3 (.ite .fail3 ?_)
  refine .bind_lift (.lift _) fun n => ?_
  refine .bind ((lifts_readFullE n).wrap _) fun p => ?_
  refine .bind_lift (.lift _) fun ⟨h, ext⟩ => ?_
  refine .bind ?_ fun h => .pure _
  cases ext
  · exact .pure _
  · exact .bind ((lifts_readFullE 4).wrap _) fun e => .pure _

theorem lifts_readMessagePayloadE (ic : Nat) (c : ChunkStream) :
    Lifts endFull (readMessagePayloadE ic c) (readMessagePayload ic c) := by
  unfold readMessagePayloadE readMessagePayload
  cases c.msg with
  | none => exact .panic
  | some m =>
    refine .ite (.pure _) (.ite .panic ?_)
    exact .bind ((lifts_readFullE _).wrap _) fun b => .ite (.pure _) (.pure _)

theorem lifts_readChunkE (st : Reader) : Lifts endFull (readChunkE st) (readChunk st) := by
  unfold readChunkE readChunk
  refine .bind (lifts_readBasicHeaderE.withMessage _) fun ⟨fmt, cid⟩ => ?_
  refine .bind ((lifts_readMessageHeaderE _ fmt).withMessage _) fun c => ?_
  refine .bind ((lifts_readMessagePayloadE _ c).withMessage _) fun ⟨c', m⟩ => ?_
  cases m with
  | none => exact .pure _
  | some m => exact .bind_lift ((Lifts.lift _).withMessage _) fun _ => .pure _

theorem lifts_readLoopE : ∀ (fuel : Nat) (st : Reader), Lifts endFull (readLoopE fuel st) fun bs => readLoop fuel st bs
  | 0, _ => .panic
  | fuel+1, st => by
    unfold readLoopE readLoop
    refine .bind (lifts_readChunkE st) fun ⟨st', m⟩ => ?_
    cases m with
    | none => exact lifts_readLoopE fuel st'
    | some m => exact .pure _

theorem readBasicHeaderE_nil (t : Nat) :
    readBasicHeaderE t [] = .err (.withStack (.withMessage "read basic header" (.root t))) := by
  unfold readBasicHeaderE
  exact SP.bind_of_err (SP.wrap_err (readFullE_nil (by decide) t))

theorem readChunkE_nil (st : Reader) (t : Nat) :
    readChunkE st t [] = .err (.withMessage "read basic header"
      (.withStack (.withMessage "read basic header" (.root t)))) := by
  unfold readChunkE
  exact SP.bind_of_err (SP.withMessage_err (readBasicHeaderE_nil t))

theorem readChunkE_consumes {st : Reader} {t : Nat} {bs rest : Bytes} {v : Reader × Option Msg}
    (h : readChunkE st t bs = .ok (v, rest)) : rest.length < bs.length :=
  (lifts_readChunkE st).cut.consumes (fun t a r h => by rw [readChunkE_nil] at h; cases h) h

theorem readLoopE_fuel : ∀ (f f' : Nat) (st : Reader) (t : Nat) (bs : Bytes), bs.length < f → bs.length < f' →
    readLoopE f st t bs = readLoopE f' st t bs := by
  intro f
  induction f with
  | zero => intro f' st t bs h; exact absurd h (Nat.not_lt_zero _)
  | succ f ih =>
    intro f' st t bs h h'
    cases f' with
    | zero => exact absurd h' (Nat.not_lt_zero _)
    | succ g =>
      unfold readLoopE
      rw [SP.bind_apply, SP.bind_apply]
      cases hc : readChunkE st t bs with
      | ok x =>
        obtain ⟨⟨st', m⟩, rest⟩ := x
        have hlt := readChunkE_consumes hc
        cases m with
        | none => exact ih g st' t rest (Nat.lt_of_lt_of_le hlt (Nat.le_of_lt_succ h)) (Nat.lt_of_lt_of_le hlt (Nat.le_of_lt_succ h'))
        | some m => rfl
      | err e => rfl
      | panic => rfl

theorem lifts_readMessageE (st : Reader) : Lifts endFull (readMessageE st) (readMessage st) := by
  refine ⟨fun t0 bs a rest h => ?_, fun bs => (lifts_readLoopE _ st).erase bs⟩
  obtain ⟨n, hl, hk⟩ := (lifts_readLoopE (bs.length + 1) st).cut t0 bs a rest h
  refine ⟨n, hl, fun t k => ?_⟩
  have : readMessageE st t (bs.take k) = readLoopE (bs.length + 1) st t (bs.take k) :=
    readLoopE_fuel _ _ _ _ _ (Nat.lt_succ_self _) (Nat.lt_succ_of_le (List.length_take_le' _ _))
  rw [this]; exact hk t k

theorem cut_expectMessageE (st : Reader) : Cut (expectMessageE st) := (lifts_readMessageE st).cut.withMessage _

theorem readMessageE_nil (st : Reader) (t : Nat) :
    readMessageE st t [] = .err (.withMessage "read basic header"
      (.withStack (.withMessage "read basic header" (.root t)))) := by
  show readLoopE 1 st t [] = _
  unfold readLoopE
  exact SP.bind_of_err (readChunkE_nil st t)

theorem readMessageE_consumes {st : Reader} {t : Nat} {bs rest : Bytes} {v : Msg × Reader}
    (h : readMessageE st t bs = .ok (v, rest)) : rest.length < bs.length :=
  (lifts_readMessageE st).cut.consumes (fun t a r h => by rw [readMessageE_nil] at h; cases h) h

/-- On an exhausted stream the reader polls afresh: the transport's own error, never io.ErrUnexpectedEOF. -/
theorem readMessageE_nil_cause {st : Reader} {t : Nat} {e : Err} (h : readMessageE st t [] = .err e) :
    e.cause = .root t := by
  rw [readMessageE_nil] at h
  cases h
  rfl

end Oryx.IoFault
