/-
  C08 — RTMP sessions over a transport that ends or fails at any byte: the reader returns exactly the
  messages wholly contained in the bytes delivered, then an error whose root cause is the transport's.
  Built from C01's round trip (`Rtmp.readMessage_written`), the erasure theorem and the cut lemma.
  Then where that error is a clean io.EOF and where io.ErrUnexpectedEOF: exactly between the basic header and
  the message header the reader polls the transport afresh (EOF); one byte later it is inside a fixed-size
  read (unexpected EOF). Also the handshake reads.
-/
import Oryx.Proofs.IoFault.Rtmp
namespace Oryx.IoFault
open Oryx Oryx.Errors Oryx.Rtmp

/-- The messages lying wholly inside the first `k` bytes of `writeAll c msgs`, in order (the writer's chunk
size follows its own Set Chunk Size announcements). -/
def wholeMsgs : Nat → Nat → List Msg → List Msg
  | _, _, [] => []
  | c, k, m :: ms =>
    match writeMessage c m with
    | .ok W1 => if W1.length ≤ k then m :: wholeMsgs (outChunkAfter c m) (k - W1.length) ms else []
    | _ => []

theorem wholeMsgs_prefix : ∀ (c k : Nat) (msgs : List Msg), wholeMsgs c k msgs <+: msgs
  | _, _, [] => by simp [wholeMsgs]
  | c, k, m :: ms => by
    unfold wholeMsgs
    split
    · split
      · exact (List.prefix_cons_inj m).mpr (wholeMsgs_prefix _ _ ms)
      · exact List.nil_prefix
    · exact List.nil_prefix

theorem wholeMsgs_eq_take (c k : Nat) (msgs : List Msg) :
    wholeMsgs c k msgs = msgs.take (wholeMsgs c k msgs).length :=
  List.prefix_iff_eq_take.mp (wholeMsgs_prefix c k msgs)

theorem wholeMsgs_all : ∀ (msgs : List Msg) (c k : Nat) (W : Bytes), writeAll c msgs = .ok W → W.length ≤ k →
    wholeMsgs c k msgs = msgs
  | [], _, _, _, _, _ => rfl
  | m :: ms, c, k, W, hw, hk => by
    obtain ⟨W1, W2, hw1, hw2, rfl⟩ := writeAll_cons hw
    rw [List.length_append] at hk
    rw [wholeMsgs, hw1]
    dsimp only
    rw [if_pos (Nat.le_trans (Nat.le_add_right _ _) hk), wholeMsgs_all ms _ _ W2 hw2 (Nat.le_sub_of_add_le' hk)]

theorem readSessionE_ok {f : Nat} {st st' : Reader} {t : Nat} {bs rest : Bytes} {m : Msg}
    (h : readMessageE st t bs = .ok ((m, st'), rest)) :
    readSessionE (f + 1) st t bs = (m :: (readSessionE f st' t rest).1, (readSessionE f st' t rest).2) := by
  rw [readSessionE, h]

theorem readSessionE_err {f : Nat} {st : Reader} {t : Nat} {bs : Bytes} {e : Err} (h : readMessageE st t bs = .err e) :
    readSessionE (f + 1) st t bs = ([], .err e) := by
  rw [readSessionE, h]

theorem session_cut (msgs : List Msg) (hall : ∀ m ∈ msgs, m.WF) :
    ∀ (c : Nat) (st : Reader) (W : Bytes), st.inChunk = c → Clean st → writeAll c msgs = .ok W →
    ∀ (t k fuel : Nat), (W.take k).length < fuel →
      ∃ e, readSessionE fuel st t (W.take k) = ((wholeMsgs c k msgs).map received, .err e) ∧
        endFull t e.cause ∧
        (((∃ W', writeAll c (wholeMsgs c k msgs) = .ok W' ∧ W'.length = k) ∨ W.length ≤ k) → e.cause = .root t) := by
  induction msgs with
  | nil =>
    intro c st W _ _ hw t k fuel hf
    obtain rfl : [] = W := Res.ok.inj hw
    cases fuel with
    | zero => exact absurd hf (Nat.not_lt_zero _)
    | succ f =>
      have he := readMessageE_nil st t
      exact ⟨_, by rw [List.take_nil, readSessionE_err he]; rfl,
        Or.inl (readMessageE_nil_cause he), fun _ => readMessageE_nil_cause he⟩
  | cons m ms ih =>
    intro c st W hic hcl hw t k fuel hf
    obtain ⟨W1, W2, hw1, hw2, rfl⟩ := writeAll_cons hw
    obtain ⟨st1, hr1, hcl1, hic1⟩ := readMessage_written c m (hall m (List.mem_cons_self ..)) st hic hcl hw1 W2
    have hrest := ih (fun x hx => hall x (List.mem_cons_of_mem _ hx)) _ st1 W2 hic1 hcl1 hw2
    cases fuel with
    | zero => exact absurd hf (Nat.not_lt_zero _)
    | succ f =>
      have hcut := (lifts_readMessageE st).cut.append ((lifts_readMessageE st).ok hr1 0) t k
      simp only [wholeMsgs, hw1]
      by_cases hk : W1.length ≤ k
      · -- the first message is wholly inside: it is read back (C01), the rest by induction
        have hr := hcut.1 hk
        obtain ⟨e, hre, hce, hbe⟩ := hrest t (k - W1.length) f
          (Nat.lt_of_lt_of_le (readMessageE_consumes hr) (Nat.le_of_lt_succ hf))
        refine ⟨e, by rw [readSessionE_ok hr, hre, if_pos hk]; rfl, hce, fun hb => hbe ?_⟩
        simp only [if_pos hk, writeAll, hw1, Res.bind_ok, List.length_append] at hb
        rcases hb with ⟨W', hW', hl⟩ | hl
        · obtain ⟨W'', hW'', h⟩ := Res.bind_eq_ok.mp hW'
          obtain rfl : W1 ++ W'' = W' := Res.ok.inj h
          exact Or.inl ⟨W'', hW'', Nat.eq_sub_of_add_eq' (List.length_append ▸ hl)⟩
        · exact Or.inr (Nat.le_sub_of_add_le' hl)
      · -- the cut falls inside the first message: an error of the transport, never a message
        obtain ⟨e, he, hce⟩ := hcut.2 (Nat.lt_of_not_le hk)
        refine ⟨e, by rw [readSessionE_err he, if_neg hk]; rfl, hce, fun hb => ?_⟩
        simp only [if_neg hk, writeAll, Res.ok.injEq, List.length_append] at hb
        obtain rfl : k = 0 := by
          rcases hb with ⟨W', rfl, hl⟩ | hl
          · exact hl.symm
          · exact absurd (Nat.le_trans (Nat.le_add_right _ _) hl) hk
        exact readMessageE_nil_cause he

theorem message_cut (c : Nat) (m : Msg) (hm : m.WF) (st : Reader) (hic : st.inChunk = c) (hcl : Clean st)
    (W1 : Bytes) (hw1 : writeMessage c m = .ok W1) (t k : Nat) (hk : k < W1.length) :
    EndErr endFull t (readMessageE st t (W1.take k)) := by
  obtain ⟨st1, hr1, _, _⟩ := readMessage_written c m hm st hic hcl hw1 []
  exact (lifts_readMessageE st).cut.starved ((lifts_readMessageE st).ok hr1 0) t hk

theorem readBasicHeaderE_one (t cid : Nat) (h2 : 2 ≤ cid) (h64 : cid < 64) (X : Bytes) :
    readBasicHeaderE t (UInt8.ofNat cid :: X) = .ok ((0, cid), X) := by
  have h := readBasicHeader_one 0 cid (by omega) h2 h64 X
  simp only [Nat.zero_mul, Nat.zero_add] at h
  exact lifts_readBasicHeaderE.ok h t

/-- A stream that stops after a type-0 basic header and fewer than 11 bytes of the message header. -/
theorem header_boundary (st : Reader) (cid : Nat) (h2 : 2 ≤ cid) (h64 : cid < 64)
    (hnone : (st.chunks.getOrNew cid).msg = none) (X : Bytes) (hX : X.length < 11) (t : Nat) :
    EndErr (fun _ c => c = .root (shortRoot t X.length)) t (readMessageE st t (UInt8.ofNat cid :: X)) := by
  have hmh : EndErr (fun _ c => c = .root (shortRoot t X.length)) t
      (readMessageHeaderE (st.chunks.getOrNew cid) 0 t X) := by
    unfold readMessageHeaderE
    rw [if_neg (by simp), if_neg (by simp [hnone]), SP.bind_of_ok (a := 11) (r := X) (by rw [hsz0, SP.lift_ok])]
    exact EndErr.bind (EndErr.mapErr (fun _ => rfl) ⟨_, readFullE_short hX t, rfl⟩)
  show EndErr _ t (readLoopE _ st t _)
  unfold readLoopE
  refine EndErr.bind ?_
  unfold readChunkE
  rw [SP.bind_of_ok (a := (0, cid)) (r := X) (SP.withMessage_ok.mpr (readBasicHeaderE_one t cid h2 h64 X))]
  exact EndErr.bind (EndErr.mapErr (fun _ => rfl) hmh)

theorem cutN_hsReadE : CutN hsReadE := by
  unfold hsReadE hsReadC0E hsReadC1E hsReadC2E
  exact CutG.bind ((cutN_copyNE 1).wrap _) fun _ => CutG.bind ((cutN_copyNE 1536).wrap _) fun _ =>
    CutG.bind ((cutN_copyNE 1536).wrap _) fun _ => CutG.pure _

theorem hsReadE_ok (t : Nat) (c0 c1 c2 rest : Bytes) (h0 : c0.length = 1) (h1 : c1.length = 1536) (h2 : c2.length = 1536) :
    hsReadE t (c0 ++ (c1 ++ (c2 ++ rest))) = .ok ((c0, c1, c2), rest) := by
  unfold hsReadE hsReadC0E hsReadC1E hsReadC2E
  rw [SP.bind_of_ok (SP.wrap_ok.mpr (copyNE_append t c0 _ h0)),
    SP.bind_of_ok (SP.wrap_ok.mpr (copyNE_append t c1 _ h1)),
    SP.bind_of_ok (SP.wrap_ok.mpr (copyNE_append t c2 _ h2))]
  rfl

end Oryx.IoFault
