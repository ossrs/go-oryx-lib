/-
  C08 — writers over a transport that accepts `K` bytes and then fails with root `t`.
  The chunk writer over bufio: for EVERY flushing policy of bufio, the bytes delivered are the first `K` bytes of
  the session, the `WriteMessage` calls that returned nil are exactly those of the messages wholly delivered, and
  the call in progress returns an error whose root cause is the transport's.
  The FLV muxer and the handshake write straight to the transport: bytes delivered = the first `K` bytes, tags /
  steps acknowledged = those wholly delivered; flv.go returns the transport's error itself, the handshake `Wrap`s it.
-/
import Oryx.Proofs.IoFault.Session
import Oryx.Proofs.IoFault.Flv
namespace Oryx.IoFault
open Oryx Oryx.Errors Oryx.Rtmp

/-- bufio without error: everything accepted so far (`A`) is delivered or buffered; `K` = total budget. -/
structure Healthy (K : Nat) (A : Bytes) (w : BW) : Prop where
  bytes : w.out ++ w.buf = A
  budget : w.out.length + w.budget = K
  noerr : w.err = none

variable {K : Nat} {A B : Bytes} {w : BW} {P : Err → Prop} {r : BW × Option Err}

theorem Healthy.fresh (K : Nat) : Healthy K [] { budget := K } := ⟨rfl, Nat.zero_add K, rfl⟩

theorem Healthy.flushed (h : Healthy K B w) (hb : w.buf = []) :
    w.out = B ∧ B.length ≤ K := by
  have hout : w.out = B := by have := h.bytes; rwa [hb, List.append_nil] at this
  exact ⟨hout, by have := h.budget; rw [hout] at this; omega⟩

/-- The transport failed inside `A`: it took exactly the first `K` bytes of what was accepted. -/
structure Failed (K : Nat) (A : Bytes) (w : BW) : Prop where
  out : w.out = A.take K
  short : K < A.length

theorem Failed.append (h : Failed K A w) (X : Bytes) : Failed K (A ++ X) w :=
  ⟨by rw [h.out, List.take_append_of_le_length (Nat.le_of_lt h.short)],
   by have := h.short; rw [List.length_append]; omega⟩

theorem Healthy.fits {X : Bytes} (h : Healthy K (A ++ X) w) (hb : w.buf = []) : X.length ≤ K - A.length :=
  Nat.le_sub_of_add_le' (List.length_append ▸ (h.flushed hb).2)

theorem Failed.not_fits {X : Bytes} (h : Failed K (A ++ X) w) (hA : A.length ≤ K) : ¬ X.length ≤ K - A.length := by
  have := h.short
  rw [List.length_append] at this
  omega

/-- What calls that end flushed — a `WriteMessage`, a direct write — return, with the writer they leave, when they were
to bring the bytes delivered up to `B`: all of `B` delivered, nothing buffered and nil; or the transport failed
inside `B` and the error satisfies `P` (is the transport's, or has it as cause). -/
inductive Sent (P : Err → Prop) (K : Nat) (B : Bytes) : BW × Option Err → Prop
  | ok {w : BW} : Healthy K B w → w.buf = [] → Sent P K B (w, none)
  | fail {w : BW} {e : Err} : Failed K B w → P e → Sent P K B (w, some e)

theorem Sent.out (h : Sent P K B r) : r.1.out = B.take K := by
  cases h with
  | ok hh hb => rw [(hh.flushed hb).1, List.take_of_length_le (hh.flushed hb).2]
  | fail hf _ => exact hf.out

theorem Sent.nil_of_le (h : Sent P K B r) (hk : B.length ≤ K) :
    r.2 = none := by
  cases h with
  | ok _ _ => rfl
  | fail hf _ => exact absurd hf.short (Nat.not_lt_of_le hk)

theorem Sent.err_of_lt (h : Sent P K B r) (hk : K < B.length) :
    ∃ e, r.2 = some e ∧ P e := by
  cases h with
  | ok hh hb => exact absurd hk (Nat.not_lt_of_le (hh.flushed hb).2)
  | fail _ hP => exact ⟨_, rfl, hP⟩

theorem Healthy.push (h : Healthy K A w) (t n : Nat) :
    Healthy K A (w.push t n) ∨ (Failed K A (w.push t n) ∧ (w.push t n).err = some (.root t)) := by
  have hb := h.budget
  unfold BW.push
  dsimp only
  split
  · refine Or.inl ⟨by rw [List.append_assoc, List.take_append_drop, h.bytes], ?_, h.noerr⟩
    show (w.out ++ w.buf.take (min n w.buf.length)).length + (w.budget - min n w.buf.length) = K
    rw [List.length_append, List.length_take, Nat.min_eq_left (Nat.min_le_right _ _)]
    omega
  · rename_i hgt
    have hlt : w.budget < w.buf.length := Nat.lt_of_lt_of_le (Nat.lt_of_not_le hgt) (Nat.min_le_right _ _)
    refine Or.inr ⟨⟨?_, by rw [← h.bytes, List.length_append]; omega⟩, rfl⟩
    show w.out ++ w.buf.take w.budget = A.take K
    rw [← h.bytes, ← hb, List.take_append, List.take_of_length_le (Nat.le_add_right _ _), Nat.add_sub_cancel_left]

theorem BW.push_all_buf {t : Nat} (h : (w.push t w.buf.length).err = none) : (w.push t w.buf.length).buf = [] := by
  unfold BW.push at h ⊢
  dsimp only at h ⊢
  split
  · simp
  · rename_i hgt; rw [if_neg hgt] at h; cases h

theorem Healthy.push_all (h : Healthy K A w) (t : Nat) :
    Sent (· = .root t) K A (w.push t w.buf.length, (w.push t w.buf.length).err) := by
  rcases h.push t w.buf.length with hh | ⟨hf, he⟩
  · rw [hh.noerr]; exact .ok hh (BW.push_all_buf hh.noerr)
  · rw [he]; exact .fail hf rfl

theorem BW.write_eq (h : w.err = none) (t : Nat) (pol : Pol) (p : Bytes) :
    w.write t pol p =
      ((({ w with buf := w.buf ++ p, calls := w.calls + 1 } : BW).push t (pol w.calls w.buf.length p.length)),
       (({ w with buf := w.buf ++ p, calls := w.calls + 1 } : BW).push t (pol w.calls w.buf.length p.length)).err) := by
  unfold BW.write
  rw [h]

theorem Healthy.buffer (h : Healthy K A w) (p : Bytes) :
    Healthy K (A ++ p) { w with buf := w.buf ++ p, calls := w.calls + 1 } :=
  ⟨by simp only [← List.append_assoc, h.bytes], h.budget, h.noerr⟩

/-- `Sent` without the flush: what a write that may leave bytes buffered returns, `B` being all it has accepted. -/
inductive Wrote (P : Err → Prop) (K : Nat) (B : Bytes) : BW × Option Err → Prop
  | ok {w : BW} : Healthy K B w → Wrote P K B (w, none)
  | fail {w : BW} {e : Err} : Failed K B w → P e → Wrote P K B (w, some e)

theorem Healthy.write (h : Healthy K A w) (t : Nat) (pol : Pol) (p : Bytes) :
    Wrote (· = .root t) K (A ++ p) (w.write t pol p) := by
  rw [BW.write_eq h.noerr]
  rcases (h.buffer p).push t (pol w.calls w.buf.length p.length) with hh | ⟨hf, he⟩
  · rw [hh.noerr]; exact .ok hh
  · rw [he]; exact .fail hf rfl

/-- A write that pushes at once what it is given, from a flushed writer. -/
theorem Healthy.write_direct (h : Healthy K A w) (hb : w.buf = []) (t : Nat) (p : Bytes) :
    Sent (· = .root t) K (A ++ p) (w.write t (fun _ _ l => l) p) := by
  rw [BW.write_eq h.noerr]
  have := (h.buffer p).push_all t
  rwa [show ({ w with buf := w.buf ++ p, calls := w.calls + 1 } : BW).buf.length = p.length by simp [hb]] at this

theorem Healthy.flush (h : Healthy K A w) (t : Nat) : Sent (· = .root t) K A (w.flush t) := by
  unfold BW.flush
  rw [h.noerr]
  exact h.push_all t

theorem writeChunks_eq_segments (c : Nat) (m : Msg) : ∀ (fuel : Nat) (first : Bool) (p : Bytes),
    writeChunks c m fuel first p = (segments c m fuel first p >>= fun segs => .ok (segs.map (·.2)).flatten)
  | 0, _, [] => rfl
  | _+1, _, [] => rfl
  | 0, _, _ :: _ => rfl
  | fuel+1, first, x :: xs => by
    rw [writeChunks, segments, writeChunks_eq_segments c m fuel]
    cases segments c m fuel false ((x :: xs).drop ((x :: xs).take c).length) with
    | ok segs => simp only [Res.bind_ok, Res.pure_eq, List.map_cons, List.flatten_cons, List.append_assoc]
    | err k => rfl
    | panic => rfl

theorem writeSegs_spec (t : Nat) (pol : Pol) : ∀ (segs : List (Bool × Bytes)) (A : Bytes) (w : BW),
    Healthy K A w → Wrote (·.cause = .root t) K (A ++ (segs.map (·.2)).flatten) (writeSegs t pol w segs) := by
  intro segs
  induction segs with
  | nil => intro A w h; rw [List.map_nil, List.flatten_nil, List.append_nil]; exact .ok h
  | cons s segs ih =>
    intro A w h
    obtain ⟨isHdr, p⟩ := s
    simp only [List.map_cons, List.flatten_cons, ← List.append_assoc]
    unfold writeSegs
    have hw := h.write t pol p
    generalize w.write t pol p = r at hw ⊢
    cases hw with
    | ok hh => exact ih (A ++ p) _ hh
    | fail hf hP => subst hP; exact .fail (hf.append _) rfl

theorem writeMessageW_sent (t : Nat) (pol : Pol) (c : Nat) (m : Msg) (W1 : Bytes) (hw : writeMessage c m = .ok W1)
    (A : Bytes) (w : BW) (h : Healthy K A w) :
    ∃ r, writeMessageW t pol c w m = .ok r ∧ Sent (·.cause = .root t) K (A ++ W1) r := by
  rw [writeMessage, writeChunks_eq_segments] at hw
  obtain ⟨segs, hs, hw⟩ := Res.bind_eq_ok.mp hw
  obtain rfl := Res.ok.inj hw
  unfold writeMessageW
  rw [hs, Res.bind_ok]
  have hsegs := writeSegs_spec (K := K) t pol segs A w h
  generalize writeSegs t pol w segs = r at hsegs ⊢
  cases hsegs with
  | @ok w1 hh =>
    have hfl := hh.flush t
    dsimp only
    generalize w1.flush t = r at hfl ⊢
    cases hfl with
    | ok hh2 hb => exact ⟨_, rfl, .ok hh2 hb⟩
    | fail hf hP => subst hP; exact ⟨_, rfl, .fail hf rfl⟩
  | fail hf hc => exact ⟨_, rfl, .fail hf hc⟩

theorem writeSessionW_sent (t : Nat) (pol : Pol) (msgs : List Msg) : ∀ (c : Nat) (W A : Bytes) (w : BW),
    writeAll c msgs = .ok W → Healthy K A w → w.buf = [] →
    ∃ e w', writeSessionW t pol c w msgs = .ok ((wholeMsgs c (K - A.length) msgs).length, e, w') ∧
      Sent (·.cause = .root t) K (A ++ W) (w', e) := by
  induction msgs with
  | nil =>
    intro c W A w hw h hb
    obtain rfl : [] = W := Res.ok.inj hw
    exact ⟨none, w, rfl, by rw [List.append_nil]; exact .ok h hb⟩
  | cons m ms ih =>
    intro c W A w hw h hb
    obtain ⟨W1, W2, hw1, hw2, rfl⟩ := writeAll_cons hw
    obtain ⟨r, hwm, hs⟩ := writeMessageW_sent (K := K) t pol c m W1 hw1 A w h
    simp only [writeSessionW, hwm, Res.bind_ok, wholeMsgs, hw1, ← List.append_assoc]
    cases hs with
    | ok hh hb1 =>
      obtain ⟨e, w', hs, hsent⟩ := ih _ W2 _ _ hw2 hh hb1
      exact ⟨e, w', by simp only [hs, Res.bind_ok, Res.pure_eq, if_pos (hh.fits hb1), List.length_cons,
        List.length_append, Nat.sub_sub], hsent⟩
    | fail hf hP =>
      exact ⟨_, _, by simp only [if_neg (hf.not_fits (h.flushed hb).2), List.length_nil]; rfl, .fail (hf.append _) hP⟩

section
open Oryx.Flv

theorem directWrites_sent (t : Nat) : ∀ (ps : List Bytes) (A : Bytes) (w : BW), Healthy K A w → w.buf = [] →
    Sent (· = .root t) K (A ++ ps.flatten) (directWrites t w ps) := by
  intro ps
  induction ps with
  | nil => intro A w h hb; rw [List.flatten_nil, List.append_nil]; exact .ok h hb
  | cons p ps ih =>
    intro A w h hb
    rw [List.flatten_cons, ← List.append_assoc]
    unfold directWrites
    have hw := h.write_direct hb t p
    generalize w.write t (fun _ _ l => l) p = r at hw ⊢
    cases hw with
    | ok hh hb1 => exact ih _ _ hh hb1
    | fail hf hP => exact .fail (hf.append _) hP

theorem flvTagWrites_flatten (tg : Tag) : (flvTagWrites tg).flatten = writeTag tg := by
  unfold flvTagWrites writeTag
  cases hb : tg.body with
  | nil => simp
  | cons x xs => simp

theorem flvWriteTagsW_sent (t : Nat) : ∀ (tags : List Tag) (A : Bytes) (w : BW), Healthy K A w → w.buf = [] →
    Sent (· = .root t) K (A ++ writeTags tags) ((flvWriteTagsW t w tags).2.2, (flvWriteTagsW t w tags).2.1) ∧
    (flvWriteTagsW t w tags).1 = (wholeTags (K - A.length) tags).length := by
  intro tags
  induction tags with
  | nil => intro A w h hb; exact ⟨by rw [writeTags, List.append_nil]; exact .ok h hb, rfl⟩
  | cons tg tgs ih =>
    intro A w h hb
    have hs := directWrites_sent (K := K) t (flvTagWrites tg) A w h hb
    rw [flvTagWrites_flatten] at hs
    unfold flvWriteTagsW
    simp only [writeTags, wholeTags, ← List.append_assoc]
    generalize directWrites t w (flvTagWrites tg) = r at hs ⊢
    cases hs with
    | ok hh hb1 =>
      obtain ⟨h1, h2⟩ := ih _ _ hh hb1
      exact ⟨h1, by simp only [h2, if_pos (writeTag_length tg ▸ hh.fits hb1), List.length_cons, List.length_append,
        writeTag_length, Nat.sub_sub]⟩
    | fail hf hP =>
      exact ⟨.fail (hf.append _) hP,
        by simp only [if_neg (writeTag_length tg ▸ hf.not_fits (h.flushed hb).2), List.length_nil]⟩

theorem flvMuxW_sent (t K : Nat) (hv ha : Bool) (tags : List Tag) :
    Sent (· = .root t) K (mux hv ha tags)
      ((flvMuxW t { budget := K } hv ha tags).2.2, (flvMuxW t { budget := K } hv ha tags).2.1) ∧
    (flvMuxW t { budget := K } hv ha tags).1 = (if K < 13 then none else some (wholeTags (K - 13) tags).length) := by
  have hs := directWrites_sent (K := K) t [writeHeader hv ha] [] _ (.fresh K) rfl
  simp only [List.flatten_cons, List.flatten_nil, List.append_nil, List.nil_append] at hs
  unfold flvMuxW mux
  generalize directWrites t ({ budget := K } : BW) [writeHeader hv ha] = r at hs ⊢
  cases hs with
  | ok hh hb1 =>
    have hl := (hh.flushed hb1).2
    rw [writeHeader_length] at hl
    obtain ⟨h1, h2⟩ := flvWriteTagsW_sent (K := K) t tags _ _ hh hb1
    exact ⟨h1, by simp only [h2, writeHeader_length, if_neg (Nat.not_lt_of_le hl)]⟩
  | fail hf hP =>
    have hlt := hf.short
    rw [writeHeader_length] at hlt
    exact ⟨.fail (hf.append _) hP, by simp only [if_pos hlt]⟩

theorem hsWritesW_sent (t : Nat) : ∀ (parts : List (String × Bytes)) (A : Bytes) (w : BW), Healthy K A w → w.buf = [] →
    Sent (·.cause = .root t) K (A ++ (parts.map (·.2)).flatten) ((hsWritesW t w parts).2.2, (hsWritesW t w parts).2.1) ∧
    ((hsWritesW t w parts).2.1 = none → (hsWritesW t w parts).1 = parts.length) := by
  intro parts
  induction parts with
  | nil => intro A w h hb; exact ⟨by rw [List.map_nil, List.flatten_nil, List.append_nil]; exact .ok h hb, fun _ => rfl⟩
  | cons pt parts ih =>
    intro A w h hb
    obtain ⟨msg, p⟩ := pt
    have hs := directWrites_sent (K := K) t [p] A w h hb
    simp only [List.flatten_cons, List.flatten_nil, List.append_nil] at hs
    unfold hsWritesW
    simp only [List.map_cons, List.flatten_cons, ← List.append_assoc, List.length_cons]
    generalize directWrites t w [p] = r at hs ⊢
    cases hs with
    | ok hh hb1 =>
      obtain ⟨h1, h2⟩ := ih _ _ hh hb1
      exact ⟨h1, fun he => congrArg (· + 1) (h2 he)⟩
    | fail hf hP => exact ⟨.fail (hf.append _) (by rw [hP]; rfl), fun he => nomatch he⟩

end

end Oryx.IoFault
