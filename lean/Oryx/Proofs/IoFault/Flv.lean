/-
  C08 — the FLV demuxer over a transport that ends or fails: every reader has the cut property (io.CopyN rule:
  exactly the transport's error) and erases to its class-only model of C09 (`lifts_…`), the two loops erase likewise,
  and the file-level cut theorem for every transport error (for `t = 0` it is C09's `demux_truncated`).
-/
import Oryx.Proofs.IoFault.Erase
import Oryx.Model.IoFault
import Oryx.Proofs.Flv
namespace Oryx.IoFault
open Oryx Oryx.Errors Oryx.Flv

theorem lifts_copyNE_flv (n : Nat) : Lifts endCopy (copyNE n) (Flv.copyN n) :=
  ⟨cutN_copyNE n, fun s => by rw [Flv.copyN_eq_stream]; exact (lifts_copyNE n).erase s⟩

theorem lifts_flvReadHeaderE : Lifts endCopy flvReadHeaderE Flv.readHeader := by
  unfold flvReadHeaderE Flv.readHeader
  refine .bind (lifts_copyNE_flv 13) fun p => ?_
  refine .bind_lift (.lift _) fun sig => .ite .fail3 ?_
  exact .bind_lift (.lift _) fun v => .bind_lift (.lift _) fun f => .pure _

theorem lifts_flvReadTagHeaderE : Lifts endCopy flvReadTagHeaderE Flv.readTagHeader := by
  unfold flvReadTagHeaderE Flv.readTagHeader
  refine .bind (lifts_copyNE_flv 11) fun p => ?_
  dsimp only
  split
  · exact .pure _
  · rename_i hne
    split
    · exact absurd rfl (hne _ _ _ _ _ _ _ _ _ _ _)
    · exact .panic

theorem lifts_flvReadTagE (size : Nat) : Lifts endCopy (flvReadTagE size) (Flv.readTag size) := by
  unfold flvReadTagE Flv.readTag
  exact .bind (lifts_copyNE_flv _) fun p => .ite .panic (.pure _)

theorem lifts_flvReadTagFullE : Lifts endCopy flvReadTagFullE Flv.readTagFull := by
  unfold flvReadTagFullE Flv.readTagFull
  exact .bind lifts_flvReadTagHeaderE fun h => .bind (lifts_flvReadTagE _) fun b => .pure _

/-- Forget the layers of a loop's stop reason. -/
def StopE.erase : StopE → Flv.Stop
  | .err e => .err e.cls
  | .panic => .panic

theorem erase_flvReadTagsE : ∀ (fuel : Nat) (s : Bytes),
    ((flvReadTagsE fuel 0 s).1, (flvReadTagsE fuel 0 s).2.erase) = Flv.readTags fuel s
  | 0, _ => rfl
  | fuel+1, s => by
    rw [flvReadTagsE, Flv.readTags, ← lifts_flvReadTagFullE.erase s]
    cases flvReadTagFullE 0 s with
    | ok x => exact congrArg (fun r => (x.1 :: r.1, r.2)) (erase_flvReadTagsE fuel x.2)
    | err e => rfl
    | panic => rfl

theorem erase_flvDemuxE (s : Bytes) :
    (match flvDemuxE 0 s with
     | .ok (h, tags, st) => Res.ok (h, tags, st.erase)
     | .err e => .err e.cls
     | .panic => .panic) = Flv.demux s := by
  rw [flvDemuxE, Flv.demux, ← lifts_flvReadHeaderE.erase s]
  cases flvReadHeaderE 0 s with
  | ok x => exact congrArg (fun r => Res.ok (x.1, r)) (erase_flvReadTagsE (x.2.length + 1) x.2)
  | err e => rfl
  | panic => rfl

theorem flvReadTagFullE_writeTag (t : Nat) (tg : Tag) (rest : Bytes) (h : tg.WF) :
    flvReadTagFullE t (writeTag tg ++ rest) = .ok (tg, rest) :=
  lifts_flvReadTagFullE.ok (Flv.readTagFull_writeTag tg rest h) t

theorem flvReadHeaderE_writeHeader (t : Nat) (hv ha : Bool) (rest : Bytes) :
    flvReadHeaderE t (writeHeader hv ha ++ rest) = .ok ({ version := 1, hasVideo := hv, hasAudio := ha }, rest) :=
  lifts_flvReadHeaderE.ok (Flv.readHeader_writeHeader hv ha rest) t

theorem flvReadTagFullE_nil (t : Nat) : flvReadTagFullE t [] = .err (.root t) := rfl

theorem flv_tags_cut (t : Nat) (tags : List Tag) (hwf : ∀ tg ∈ tags, tg.WF) :
    ∀ k fuel, ((writeTags tags).take k).length < fuel →
      ∃ e, flvReadTagsE fuel t ((writeTags tags).take k) = (wholeTags k tags, .err e) ∧ e.cause = .root t := by
  induction tags with
  | nil =>
    intro k fuel hf
    cases fuel with
    | zero => exact absurd hf (Nat.not_lt_zero _)
    | succ f => exact ⟨.root t, by rw [writeTags, List.take_nil, flvReadTagsE, flvReadTagFullE_nil]; rfl, rfl⟩
  | cons tg ts ih =>
    intro k fuel hf
    cases fuel with
    | zero => exact absurd hf (Nat.not_lt_zero _)
    | succ f =>
      have hcut := lifts_flvReadTagFullE.cut.append (flvReadTagFullE_writeTag 0 tg (writeTags ts) (hwf tg (List.mem_cons_self ..))) t k
      rw [writeTag_length] at hcut
      simp only [writeTags, wholeTags] at hf ⊢
      by_cases hk : 15 + tg.body.length ≤ k
      · have hr := hcut.1 hk
        obtain ⟨e, he, hc⟩ := ih (fun x hx => hwf x (List.mem_cons_of_mem _ hx)) (k - (15 + tg.body.length)) f
          (Nat.lt_of_lt_of_le (lifts_flvReadTagFullE.cut.consumes (fun t a r h => by cases h) hr) (Nat.le_of_lt_succ hf))
        exact ⟨e, by simp only [flvReadTagsE, hr, he, if_pos hk], hc⟩
      · obtain ⟨e, he, (hc : e.cause = .root t)⟩ := hcut.2 (Nat.lt_of_not_le hk)
        exact ⟨e, by simp only [flvReadTagsE, he, if_neg hk], hc⟩

theorem flv_demux_cut (t : Nat) (hv ha : Bool) (tags : List Tag) (hwf : ∀ tg ∈ tags, tg.WF) (k : Nat) :
    (k < 13 → ∃ e, flvDemuxE t ((mux hv ha tags).take k) = .err e ∧ e.cause = .root t) ∧
    (13 ≤ k → ∃ e, flvDemuxE t ((mux hv ha tags).take k) =
        .ok ({ version := 1, hasVideo := hv, hasAudio := ha }, wholeTags (k - 13) tags, .err e) ∧ e.cause = .root t) := by
  have hcut := lifts_flvReadHeaderE.cut.append (flvReadHeaderE_writeHeader 0 hv ha (writeTags tags)) t k
  rw [writeHeader_length] at hcut
  unfold mux
  refine ⟨fun hk => ?_, fun hk => ?_⟩
  · obtain ⟨e, he, (hc : e.cause = .root t)⟩ := hcut.2 hk
    exact ⟨e, by simp only [flvDemuxE, he], hc⟩
  · obtain ⟨e, he, hc⟩ := flv_tags_cut t tags hwf (k - 13) _ (Nat.lt_succ_self _)
    exact ⟨e, by simp only [flvDemuxE, hcut.1 hk, he], hc⟩

end Oryx.IoFault
