/-
  C08 — forgetting the layers: over a transport that ENDS (`t = 0`, io.EOF) an error-carrying reader, with its
  errors reduced to classes, is a class-only reader of the kind C01 (RTMP) and C09 (FLV) are stated about.
  `Lifts` pairs that correspondence with the cut property; here it is carried through `bind`, wraps and branches,
  and holds of the primitives.
-/
import Oryx.Proofs.IoFault.Cut
namespace Oryx.IoFault
open Oryx Oryx.Errors

theorem erase_ok {r : ResE α} {a : α} (h : r.erase = .ok a) : r = .ok a := by
  cases r with
  | ok x => exact congrArg ResE.ok (Res.ok.inj h)
  | err e => cases h
  | panic => cases h

theorem erase_err {r : ResE α} {k : EK} (h : r.erase = .err k) : ∃ e, r = .err e ∧ e.cls = k := by
  cases r with
  | ok x => cases h
  | err e => exact ⟨e, rfl, Res.err.inj h⟩
  | panic => cases h

theorem erase_pure (a : α) (t : Nat) (bs : Bytes) : ((pure a : SP α) t bs).erase = .ok (a, bs) := rfl

theorem erase_fail3 (t : Nat) (bs : Bytes) : ((SP.fail (.root 3) : SP α) t bs).erase = .err .generic := rfl

theorem erase_panic (t : Nat) (bs : Bytes) : ((SP.panic : SP α) t bs).erase = .panic := rfl

/-- `p` has the cut property and, over a stream that ends and with the layers forgotten, is the class-only reader
`q`. Closed under what readers are written with, so one walk along a reader's definition gives both. -/
structure Lifts (E : EndRel) (p : SP α) (q : Bytes → Res (α × Bytes)) : Prop where
  cut : CutG E p
  erase (bs : Bytes) : (p 0 bs).erase = q bs

variable {E : EndRel} {p : SP α} {q : Bytes → Res (α × Bytes)}

theorem Lifts.bind {f : α → SP β} {g : α × Bytes → Res (β × Bytes)}
    (hp : Lifts E p q) (hf : ∀ a, Lifts E (f a) fun r => g (a, r)) : Lifts E (p >>= f) fun bs => q bs >>= g := by
  refine ⟨hp.cut.bind fun a => (hf a).cut, fun bs => ?_⟩
  rw [← hp.erase, SP.bind_apply]
  cases p 0 bs with
  | ok x => exact (hf x.1).erase x.2
  | err e => rfl
  | panic => rfl

theorem Lifts.lift (r : Res α) : Lifts E (SP.lift r) fun bs => r >>= fun a => .ok (a, bs) := by
  refine ⟨CutG.lift r, fun bs => ?_⟩
  cases r with
  | ok a => rfl
  | err k => exact congrArg Res.err (rootOfEK_ekOfRoot k)
  | panic => rfl

/-- A step of the class-only reader that does not touch the stream. -/
theorem Lifts.bind_lift {f : α → SP β} {r : Res α} {g : α → Bytes → Res (β × Bytes)}
    (hp : Lifts E p fun bs => r >>= fun a => .ok (a, bs)) (hf : ∀ a, Lifts E (f a) (g a)) :
    Lifts E (p >>= f) fun bs => r >>= fun a => g a bs := by
  have h := hp.bind (g := fun x => g x.1 x.2) hf
  refine ⟨h.cut, fun bs => (h.erase bs).trans ?_⟩
  cases r <;> rfl

theorem Lifts.mapErr {f : Err → Err} (hp : Lifts E p q) (hf : ∀ e, (f e).cause = e.cause) : Lifts E (p.mapErr f) q := by
  refine ⟨hp.cut.mapErr hf, fun bs => ?_⟩
  rw [← hp.erase, SP.mapErr_apply]
  cases p 0 bs with
  | ok x => rfl
  | err e => exact congrArg Res.err (by rw [Err.cls, hf]; rfl)
  | panic => rfl

theorem Lifts.wrap (msg : String) (hp : Lifts E p q) : Lifts E (p.wrap msg) q :=
  hp.mapErr fun _ => rfl

theorem Lifts.withMessage (msg : String) (hp : Lifts E p q) : Lifts E (p.withMessage msg) q :=
  hp.mapErr fun _ => rfl

theorem Lifts.ite {c : Prop} [Decidable c] {p' : SP α} {q' : Bytes → Res (α × Bytes)}
    (h : Lifts E p q) (h' : Lifts E p' q') : Lifts E (if c then p else p') fun bs => if c then q bs else q' bs := by
  split <;> assumption

theorem Lifts.pure (a : α) : Lifts E (pure a : SP α) fun bs => .ok (a, bs) := ⟨CutG.pure a, erase_pure a 0⟩

theorem Lifts.fail3 : Lifts E (SP.fail (.root 3) : SP α) fun _ => .err .generic := ⟨CutG.fail _, erase_fail3 0⟩

theorem Lifts.panic : Lifts E (SP.panic : SP α) fun _ => .panic := ⟨CutG.panic, erase_panic 0⟩

/-- A reader succeeds, whatever the transport would report later, wherever its class-only reader does. -/
theorem Lifts.ok (hp : Lifts E p q) {bs : Bytes} {v : α × Bytes} (hq : q bs = .ok v) (t : Nat) : p t bs = .ok v :=
  hp.cut.ok_indep (erase_ok ((hp.erase bs).trans hq)) t

theorem lifts_readFullE (n : Nat) : Lifts endFull (readFullE n) (readFull n) := by
  refine ⟨cut_readFullE n, fun bs => ?_⟩
  rw [readFullE_eq, readFull_eq, shortRoot]
  by_cases hn : n = 0
  · rw [if_pos hn, if_pos hn]; rfl
  rw [if_neg hn, if_neg hn, if_pos rfl]
  by_cases h0 : bs.length = 0
  · rw [if_pos (by omega), if_pos h0, if_pos h0]; rfl
  rw [if_neg h0, if_neg h0]
  by_cases hl : bs.length < n
  · rw [if_pos hl, if_pos hl]; rfl
  · rw [if_neg hl, if_neg hl]; rfl

theorem lifts_copyNE (n : Nat) : Lifts endCopy (copyNE n) (copyN n) := by
  refine ⟨cutN_copyNE n, fun bs => ?_⟩
  rw [copyNE_eq, copyN_eq]
  split <;> rfl

end Oryx.IoFault
