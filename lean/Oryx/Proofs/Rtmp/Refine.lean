/-
  C02: the reader refines the chunker of `Spec.RtmpChunk` under the reading `absExt = true` of the extended timestamp
  field ("always the time itself": what the reader implements, K2), for every trace. `Rel` relates the sender state to
  the reader state; one chunk event keeps it and hands back the message the event completes (`readChunk_spec`, from
  `readChunk_wire` and `wireHdr_rel`); induction over the trace gives whole streams (`decode_from`). What this says
  about the specification proper (`absExt = false`) is in AbsExt.lean.
-/
import Oryx.Proofs.Rtmp.Reader
namespace Oryx.Rtmp
open Oryx Oryx.Res Oryx.Spec.RtmpChunk

/-! ### the specification's chunker by case -/

/-- The local `got` of `step`. -/
def pending (c : CsState) : Bytes := if c.busy then c.got else []

/-- The sender-side state of a chunk stream after event `e`, when `e` completes its message and when it does not. -/
def csDone (a : Bool) (c : CsState) (e : ChunkEv) : CsState :=
  { ts := newTs a c e, delta := e.tsField, len := e.len, ty := e.ty, sid := e.sid }

def csOpen (a : Bool) (c : CsState) (e : ChunkEv) : CsState :=
  { csDone a c e with got := pending c ++ e.data, busy := true }

theorem headerOK_fields {c : CsState} {e : ChunkEv} (hh : HeaderOK c e) :
    (c.busy = true → e.fmt = 3) ∧ (e.fmt = 3 → e.tsField = c.delta) ∧ (¬ e.fmt ≤ 1 → e.len = c.len ∧ e.ty = c.ty) ∧
    (e.fmt ≠ 0 → e.sid = c.sid) := by
  by_cases hb : c.busy = true
  · rw [HeaderOK, if_pos hb] at hh
    exact ⟨fun _ => hh.1, fun _ => hh.2.1, fun _ => ⟨hh.2.2.1, hh.2.2.2.1⟩, fun _ => hh.2.2.2.2⟩
  refine ⟨fun h => absurd h hb, ?_⟩
  by_cases h0 : e.fmt = 0
  · exact ⟨fun h => absurd (h0 ▸ h) (by decide), fun h => absurd (h0 ▸ Nat.zero_le 1) h, fun h => absurd h0 h⟩
  by_cases h1 : e.fmt = 1
  · rw [HeaderOK, if_neg hb, if_neg h0, if_pos h1] at hh
    exact ⟨fun h => absurd (h1 ▸ h) (by decide), fun h => absurd (Nat.le_of_eq h1) h, fun _ => hh⟩
  by_cases h2 : e.fmt = 2
  · rw [HeaderOK, if_neg hb, if_neg h0, if_neg h1, if_pos h2] at hh
    exact ⟨fun h => absurd (h2 ▸ h) (by decide), fun _ => hh.2, fun _ => hh.1⟩
  · rw [HeaderOK, if_neg hb, if_neg h0, if_neg h1, if_neg h2] at hh
    exact ⟨fun _ => hh.1, fun _ => ⟨hh.2.1, hh.2.2.1⟩, fun _ => hh.2.2.2⟩

theorem lookup_eq_some {s : Sender} {e : ChunkEv} {c : CsState} :
    lookup s e = some c ↔
      s.cs e.cid = some c ∨ (s.cs e.cid = none ∧ (e.fmt = 0 ∨ (e.fmt = 1 ∧ e.cid = 2)) ∧ c = {}) := by
  unfold lookup
  cases s.cs e.cid with
  | some c0 => simp
  | none =>
    by_cases h : e.fmt = 0 ∨ (e.fmt = 1 ∧ e.cid = 2)
    · simp [h, eq_comm]
    · simp [h]

theorem step_eq (a : Bool) {s : Sender} {e : ChunkEv} {c : CsState} (hl : lookup s e = some c) :
    step a s e =
      if EvOK e ∧ HeaderOK c e ∧ e.data.length = min (e.len - (pending c).length) s.chunkSize then
        if (pending c ++ e.data).length = e.len then
          if ControlOK e.ty (pending c ++ e.data) then
            some (s.setCs e.cid (csDone a c e) (if e.ty = 1 then ofBE (pending c ++ e.data) else s.chunkSize),
                  some { cid := e.cid, ty := e.ty, sid := e.sid, ts := newTs a c e % 2147483648,
                         payload := pending c ++ e.data })
          else none
        else some (s.setCs e.cid (csOpen a c e) s.chunkSize, none)
      else none := by
  have hg : (if c.busy then c.got else []) = pending c := rfl
  simp only [step, hl, hg, ne_eq, ite_not]
  by_cases hev : EvOK e
  · by_cases hh : HeaderOK c e
    · by_cases hd : e.data.length = min (e.len - (pending c).length) s.chunkSize
      · rw [if_pos hev, if_pos hh, if_pos hd, if_pos (And.intro hev (And.intro hh hd))]; rfl
      · rw [if_pos hev, if_pos hh, if_neg hd, if_neg fun h => hd h.2.2]
    · rw [if_pos hev, if_neg hh, if_neg fun h => hh h.2.1]
  · rw [if_neg hev, if_neg fun h => hev h.1]

theorem step_inv {a : Bool} {s s' : Sender} {e : ChunkEv} {out : Option Message} (h : step a s e = some (s', out)) :
    ∃ c, EvOK e ∧ lookup s e = some c ∧ HeaderOK c e ∧
      e.data.length = min (e.len - (pending c).length) s.chunkSize ∧
      (((pending c ++ e.data).length = e.len ∧ ControlOK e.ty (pending c ++ e.data) ∧
          s' = s.setCs e.cid (csDone a c e) (if e.ty = 1 then ofBE (pending c ++ e.data) else s.chunkSize) ∧
          out = some { cid := e.cid, ty := e.ty, sid := e.sid, ts := newTs a c e % 2147483648,
                       payload := pending c ++ e.data }) ∨
       ((pending c ++ e.data).length ≠ e.len ∧ s' = s.setCs e.cid (csOpen a c e) s.chunkSize ∧ out = none)) := by
  cases hl : lookup s e with
  | none => simp [step, hl] at h
  | some c =>
    rw [step_eq a hl] at h
    by_cases hc : EvOK e ∧ HeaderOK c e ∧ e.data.length = min (e.len - (pending c).length) s.chunkSize
    · refine ⟨c, hc.1, rfl, hc.2.1, hc.2.2, ?_⟩
      rw [if_pos hc] at h
      by_cases hlen : (pending c ++ e.data).length = e.len
      · rw [if_pos hlen] at h
        by_cases hctl : ControlOK e.ty (pending c ++ e.data)
        · rw [if_pos hctl] at h; cases h; exact .inl ⟨hlen, hctl, rfl, rfl⟩
        · rw [if_neg hctl] at h; cases h
      · rw [if_neg hlen] at h; cases h; exact .inr ⟨hlen, rfl, rfl⟩
    · rw [if_neg hc] at h; cases h

theorem run_cons {a : Bool} {s s' : Sender} {e : ChunkEv} {tr : List ChunkEv} {ms : List Message}
    (h : run a s (e :: tr) = some (s', ms)) :
    ∃ s1 out ms1, step a s e = some (s1, out) ∧ run a s1 tr = some (s', ms1) ∧ ms = optList out ++ ms1 := by
  simp only [run] at h
  cases hs : step a s e with
  | none => simp [hs] at h
  | some r =>
    obtain ⟨s1, out⟩ := r
    cases hr : run a s1 tr with
    | none => simp [hs, hr] at h
    | some r1 =>
      simp only [hs, hr, Option.some.injEq, Prod.mk.injEq] at h
      exact ⟨s1, out, r1.2, rfl, by rw [← h.1, hr], h.2.symm⟩

theorem conformant_run {tr : List ChunkEv} (hc : Conformant tr) : ∃ s', run false {} tr = some (s', specMessages tr) := by
  unfold Conformant at hc
  unfold specMessages
  cases hrun : run false {} tr with
  | none => rw [hrun] at hc; simp at hc
  | some r => exact ⟨r.1, rfl⟩

/-! ### the relation, kept by one chunk event -/

/-- The header the reader holds for a chunk stream whose sender-side state is `cs`. -/
def hdrOfCs (k : Nat) (cs : CsState) : Header :=
  { tsDelta := tsWire cs.delta, len := cs.len, ty := cs.ty, sid := cs.sid, cid := k, ts := cs.ts % 2147483648 }

/-- Reader chunk stream `ch` represents sender-side chunk stream state `cs` of chunk stream `k`. -/
structure RelCs (k : Nat) (cs : CsState) (ch : ChunkStream) : Prop where
  cid : ch.cid = k
  hdr : ch.hdr = hdrOfCs k cs
  ext : ch.extTs = decide (16777215 ≤ cs.delta)
  msg : ch.msg = if cs.busy then some { hdr := hdrOfCs k cs, payload := cs.got } else none
  got : cs.busy = true → cs.got.length < cs.len
  abs : cs.busy = true → 16777215 ≤ cs.delta → cs.ts = cs.delta
  delta : cs.delta < 4294967296

theorem RelCs.isSome {k : Nat} {c : CsState} {ch : ChunkStream} (hr : RelCs k c ch) : ch.msg.isSome = c.busy := by
  rw [hr.msg]; cases c.busy <;> rfl

theorem RelCs.got_eq {k : Nat} {c : CsState} {ch : ChunkStream} (hr : RelCs k c ch) : ch.got = pending c := by
  simp only [ChunkStream.got, hr.msg, pending]; cases c.busy <;> rfl

theorem RelCs.admits {c : CsState} {ch : ChunkStream} {e : ChunkEv} (hr : RelCs e.cid c ch) (hev : EvOK e)
    (hh : HeaderOK c e) (hcount : ch.count ≠ 0 ∨ e.fmt = 0 ∨ (ch.cid = 2 ∧ e.fmt = 1)) : Admits ch e := by
  obtain ⟨hbh, hf, hts, hlen, hty, hsid, _⟩ := hev
  obtain ⟨hb3, hd3, hlt, _⟩ := headerOK_fields hh
  have hsome : ch.msg.isSome = true → e.fmt = 3 := fun h => hb3 (hr.isSome ▸ h)
  have hn1 : ch.msg.isSome = true ∨ ¬ e.fmt ≤ 1 → ¬ e.fmt ≤ 1 := fun h => h.elim (fun h => by rw [hsome h]; decide) id
  exact { form := hbh, fmt := hf, ts := hts, len := hlen, ty := hty, sid := hsid, started := hcount,
          inside := fun h => by rw [hsome h]; decide,
          sameLen := fun h => by rw [hr.hdr]; exact (hlt (hn1 h)).1.symm,
          ext3 := fun h3 => by rw [hr.ext, hd3 h3] }

/-- Under the reading `absExt = true` an extended field is the timestamp itself (for a continuation chunk because its
message began so: `RelCs.abs`). -/
theorem newTs_ext {k : Nat} {c : CsState} {ch : ChunkStream} {e : ChunkEv} (hr : RelCs k c ch) (hh : HeaderOK c e)
    (hx : 16777215 ≤ e.tsField) : newTs true c e = e.tsField := by
  obtain ⟨hb3, hd, _, _⟩ := headerOK_fields hh
  cases hb : c.busy with
  | true =>
    have h3 := hd (hb3 hb)
    simp only [newTs, hb, if_true]
    rw [h3]
    exact hr.abs hb (h3 ▸ hx)
  | false => by_cases h0 : e.fmt = 0 <;> simp [newTs, hb, h0, hx]

theorem wireHdr_rel {k : Nat} {c : CsState} {ch : ChunkStream} {e : ChunkEv} (hr : RelCs k c ch)
    (hh : HeaderOK c e) (hf : e.fmt ≤ 3) : wireHdr ch e = hdrOfCs k (csDone true c e) := by
  obtain ⟨hb3, hd, hlt, hs⟩ := headerOK_fields hh
  have hts : wireTs ch e % 2147483648 = newTs true c e % 2147483648 := by
    by_cases hx : 16777215 ≤ e.tsField
    · rw [newTs_ext hr hh hx, wireTs_abs (.inl hx)]
    have hcts : ch.hdr.ts = c.ts % 2147483648 := by rw [hr.hdr]; rfl
    have hcd : ch.hdr.tsDelta = tsWire c.delta := by rw [hr.hdr]; rfl
    have hnone : ch.msg.isNone = !c.busy := by rw [hr.msg]; cases c.busy <;> rfl
    simp only [wireTs, newTs, hcts, hcd, hnone]
    cases hb : c.busy with
    | true =>
      have h3 := hb3 hb
      simp [h3, hx]
    | false =>
      have hfm : e.fmt = 0 ∨ e.fmt = 1 ∨ e.fmt = 2 ∨ e.fmt = 3 := by omega
      rcases hfm with h | h | h | h
      · simp [h, hx]
      · simp [h, hx]
      · simp [h, hx]
      · have hx' : ¬ 16777215 ≤ c.delta := by rw [← hd h]; exact hx
        simp [h, hx, tsWire_of_not_le hx']
  simp only [wireHdr, hdrOfCs, csDone, hr.hdr, hts, Header.mk.injEq, and_true]
  exact ⟨ite_eq_left_iff.mpr fun h => by rw [hd (by omega)], ite_eq_left_iff.mpr fun h => (hlt h).1.symm,
    ite_eq_left_iff.mpr fun h => (hlt h).2.symm, ite_eq_left_iff.mpr fun h => (hs h).symm⟩

theorem ctlOK_of_controlOK {m : Msg} (h : ControlOK m.hdr.ty m.payload) : m.CtlOK := by
  obtain ⟨h1, _, h4, h5, _⟩ := h
  refine ⟨fun t => Nat.le_of_eq (h1 t).1.symm, fun t => Nat.le_of_eq (h5 t).symm, fun t4 => ?_⟩
  -- the User Control events of §7.1.7 are as long as `UserControl.Size()` says
  obtain ⟨h2, h3, hn3⟩ := h4 t4
  by_cases e3 : ofBE (m.payload.take 2) = 3
  · simp [h3 e3, e3, userControlSize, Gen.Rtmp.EventTypeFmsEvent0, Gen.Rtmp.EventTypeSetBufferLength]
  · obtain ⟨hl, hev⟩ := hn3 e3
    have hne : ¬ ofBE (m.payload.take 2) = 26 := by omega
    simp [hl, e3, hne, userControlSize, Gen.Rtmp.EventTypeFmsEvent0, Gen.Rtmp.EventTypeSetBufferLength]

theorem onMessageArrived_spec (ic : Nat) (m : Msg) (h : ControlOK m.hdr.ty m.payload) :
    onMessageArrived ic m = ok (if m.hdr.ty = 1 then ofBE m.payload else ic) := by
  rw [onMessageArrived_eq ic m (ctlOK_of_controlOK h)]
  by_cases t1 : m.hdr.ty = 1
  · rw [if_pos t1, if_pos t1, List.take_of_length_le (Nat.le_of_eq (h.1 t1).1)]
  · rw [if_neg t1, if_neg t1]

/-- What the reader hands back, as the specification's message. -/
def toSpec (m : Msg) : Message :=
  { cid := m.hdr.cid, ty := m.hdr.ty, sid := m.hdr.sid, ts := m.hdr.ts, payload := m.payload }

/-- **Abstraction relation** between the sender of the specification and the reader: same chunk size;
the chunk table has an entry exactly for the chunk streams the sender has used, each representing
the sender-side state; entries are independent (a finite map). -/
structure Rel (s : Sender) (st : Reader) : Prop where
  chunk : st.inChunk = s.chunkSize
  cs : ∀ k, match s.cs k with
    | none => st.chunks.get k = none
    | some c => ∃ ch, st.chunks.get k = some ch ∧ RelCs k c ch ∧ ch.count ≠ 0

theorem rel_init : Rel {} {} := ⟨rfl, fun k => by simp [Chunks.get]⟩

theorem relCs_blank (k : Nat) : RelCs k {} { cid := k, hdr := { cid := k } } :=
  { cid := rfl, hdr := rfl, ext := rfl, msg := rfl, got := nofun, abs := nofun, delta := by decide }

theorem rel_set {s : Sender} {st : Reader} (hrel : Rel s st) (cid : Nat) (c' : CsState) (ch' : ChunkStream) (n : Nat)
    (hr : RelCs cid c' ch') (hc : ch'.count ≠ 0) :
    Rel (s.setCs cid c' n) { inChunk := n, chunks := st.chunks.set cid ch' } := by
  refine ⟨rfl, fun k => ?_⟩
  by_cases hk : k = cid
  · subst hk
    simp only [Sender.setCs, if_true]
    exact ⟨ch', Chunks.get_set_same _ _ _, hr, hc⟩
  · simp only [Sender.setCs, hk, if_false, Chunks.get_set_other _ _ _ _ hk]
    exact hrel.cs k

theorem lookup_rel {s : Sender} {st : Reader} (hrel : Rel s st) {e : ChunkEv} {c : CsState} (hl : lookup s e = some c) :
    RelCs e.cid c (st.chunks.getOrNew e.cid) ∧
    ((st.chunks.getOrNew e.cid).count ≠ 0 ∨ e.fmt = 0 ∨ ((st.chunks.getOrNew e.cid).cid = 2 ∧ e.fmt = 1)) := by
  have hk := hrel.cs e.cid
  rcases lookup_eq_some.mp hl with h | ⟨h, hfresh, rfl⟩
  · rw [h] at hk
    obtain ⟨ch, hget, hr, hc⟩ := hk
    rw [Chunks.getOrNew_of_get hget]
    exact ⟨hr, .inl hc⟩
  · rw [h] at hk
    rw [Chunks.getOrNew_of_get_none hk]
    exact ⟨relCs_blank _, .inr (hfresh.imp_right fun h => ⟨h.2, h.1⟩)⟩

/-- A chunk that leaves its message open stops short of the announced length (about variables: `omega` is slow in
the context of `readChunk_spec`). -/
theorem slice_short {g d L k : Nat} (hpre : g ≤ L) (hd : d = min (L - g) k) (hne : g + d ≠ L) : g + d < L := by
  omega

theorem readChunk_spec (s s' : Sender) (st : Reader) (e : ChunkEv) (out : Option Message) (rest : Bytes)
    (hrel : Rel s st) (hstep : step true s e = some (s', out)) :
    ∃ st' om, readChunk st (chunkBytes e ++ rest) = ok ((st', om), rest) ∧ Rel s' st' ∧ om.map toSpec = out := by
  obtain ⟨c, hev, hl, hh, hd, hcase⟩ := step_inv hstep
  obtain ⟨hrc, hcount⟩ := lookup_rel hrel hl
  obtain ⟨ch, hch⟩ : ∃ ch, st.chunks.getOrNew e.cid = ch := ⟨_, rfl⟩
  rw [hch] at hrc hcount
  have ⟨_, hf, hts, _⟩ := hev
  have hadm := hrc.admits hev hh hcount
  have hgot := hrc.got_eq
  have hpre : (pending c).length ≤ e.len := by
    cases hb : c.busy with
    | true =>
      rw [← hadm.sameLen (.inl (hrc.isSome.trans hb)), hrc.hdr]
      simp only [pending, hb, if_true]
      exact Nat.le_of_lt (hrc.got hb)
    | false => simp [pending, hb]
  rw [readChunk_wire st e rest hch hadm (hgot ▸ hpre) (by rw [hgot, hrel.chunk]; exact hd),
    wireHdr_rel hrc hh hf, hgot]
  rcases hcase with ⟨hc, hctl, rfl, rfl⟩ | ⟨hc, rfl, rfl⟩
  · rw [if_pos (by simpa using hc), onMessageArrived_spec st.inChunk
      { hdr := hdrOfCs e.cid (csDone true c e), payload := pending c ++ e.data } hctl]
    refine ⟨_, _, rfl, ?_, rfl⟩
    have hr' : RelCs e.cid (csDone true c e)
        { ch with hdr := hdrOfCs e.cid (csDone true c e), msg := none, count := ch.count + 1,
                  extTs := decide (16777215 ≤ e.tsField) } :=
      { cid := hrc.cid, hdr := rfl, ext := rfl, msg := rfl, got := nofun, abs := nofun, delta := hts }
    have := rel_set hrel e.cid (csDone true c e) _
      (if e.ty = 1 then ofBE (pending c ++ e.data) else s.chunkSize) hr' (by simp)
    simpa [hdrOfCs, csDone, hrel.chunk] using this
  · rw [if_neg (by simpa using hc)]
    refine ⟨_, _, rfl, ?_, rfl⟩
    have hlt' : (pending c ++ e.data).length < e.len := by
      rw [List.length_append] at hc ⊢
      exact slice_short hpre hd hc
    have hr' : RelCs e.cid (csOpen true c e)
        { ch with hdr := hdrOfCs e.cid (csDone true c e),
                  msg := some { hdr := hdrOfCs e.cid (csDone true c e), payload := pending c ++ e.data },
                  count := ch.count + 1, extTs := decide (16777215 ≤ e.tsField) } :=
      { cid := hrc.cid, hdr := rfl, ext := rfl, msg := rfl, got := fun _ => hlt',
        abs := fun _ hx => newTs_ext hrc hh hx, delta := hts }
    have := rel_set hrel e.cid (csOpen true c e) _ s.chunkSize hr' (by simp)
    simpa [hrel.chunk] using this

/-! ### whole traces -/

/-- `endsCompleteFrom` along the run of the reading `absExt = true`; equal to it on a trace the specification accepts
(last part of `run_sim`). -/
def endsAbs : Sender → List ChunkEv → Bool
  | _, [] => true
  | s, e :: tr =>
    match step true s e with
    | some (s', out) => if tr.isEmpty then out.isSome else endsAbs s' tr
    | none => false

/-- `readChunk` applied `n` times, collecting the completed messages (the chunk-level view of the
`for m == nil` loop of `ReadMessage` over several calls). -/
def readChunks : Nat → Reader → Bytes → Res ((List Msg × Reader) × Bytes)
  | 0, st, bs => ok (([], st), bs)
  | n+1, st, bs => do
    let ((st, m), bs) ← readChunk st bs
    let ((ms, st), bs) ← readChunks n st bs
    pure ((optList m ++ ms, st), bs)

theorem decode_from : ∀ (tr : List ChunkEv) (s s' : Sender) (st : Reader) (ms : List Message) (rest : Bytes),
    Rel s st → run true s tr = some (s', ms) →
    ∃ rms st', readChunks tr.length st (specBytes tr ++ rest) = ok ((rms, st'), rest) ∧
      rms.map toSpec = ms ∧ Rel s' st' ∧
      (endsAbs s tr = true → readMessages ms.length st (specBytes tr ++ rest) = ok ((rms, st'), rest)) := by
  intro tr
  induction tr with
  | nil =>
    intro s s' st ms rest hrel hrun
    simp only [run, Option.some.injEq, Prod.mk.injEq] at hrun
    obtain ⟨rfl, rfl⟩ := hrun
    exact ⟨[], st, rfl, rfl, hrel, fun _ => rfl⟩
  | cons e tr ih =>
    intro s s' st ms rest hrel hrun
    obtain ⟨s1, out, ms1, hstep, hrun1, rfl⟩ := run_cons hrun
    obtain ⟨st1, om, hrc, hrel1, hom⟩ := readChunk_spec s s1 st e out (specBytes tr ++ rest) hrel hstep
    obtain ⟨rms, st', hrd, hmap, hrel', hmsgs⟩ := ih s1 s' st1 ms1 rest hrel1 hrun1
    have hbytes : specBytes (e :: tr) ++ rest = chunkBytes e ++ (specBytes tr ++ rest) := by
      simp only [specBytes, List.append_assoc]
    rw [hbytes]
    refine ⟨optList om ++ rms, st', ?_, ?_, hrel', fun hends => ?_⟩
    · simp only [List.length_cons, readChunks, hrc, Res.bind_ok, hrd, Res.pure_eq]
    · rw [List.map_append, hmap, ← hom]
      cases om <;> rfl
    simp only [endsAbs, hstep] at hends
    subst hom
    cases om with
    | some rm =>
      -- this chunk completes a message, the rest of the trace ends as the whole does
      have hends1 : endsAbs s1 tr = true := by
        cases tr with
        | nil => rfl
        | cons _ _ => simpa using hends
      exact readMessages_chunk_some hrc (hmsgs hends1)
    | none =>
      -- more chunks follow, and the next `ReadMessage` runs through them
      cases tr with
      | nil => simp at hends
      | cons e2 tr2 =>
        have hr1 := hmsgs (by simpa using hends)
        cases ms1 with
        | nil =>
          -- impossible: nothing more to read, yet the bytes of `e2` are there
          simp only [List.length_nil, readMessages, ok.injEq, Prod.mk.injEq] at hr1
          have hl := congrArg List.length hr1.2
          have := chunkBytes_length_pos e2
          simp only [specBytes, List.length_append] at hl
          omega
        | cons m0 ms0 => exact readMessages_chunk_none hrc hr1

end Oryx.Rtmp
