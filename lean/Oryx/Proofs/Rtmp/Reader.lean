/-
  The RTMP chunk reader, stage by stage, on its own terms (no writer, no sender state):
  what `readBasicHeader`, `readMessageHeader` and `readChunk` return on the wire bytes of one chunk event of
  `Spec.RtmpChunk` that the chunk stream admits (`readChunk_wire`: C01 and C02 both rest on it), the payload stage as
  one equation on any input (`readMessagePayload_eq`); the headers it refuses; and, on ANY bytes, that no stage panics
  and every step consumes input (`*_sat`).
-/
import Oryx.Model.Rtmp
import Oryx.Spec.RtmpChunk
import Oryx.Base.Sat

namespace Oryx
open Res

namespace Rtmp
open Spec.RtmpChunk

/-- The model spells the threshold by the Go constant (gated in Props/C01, C02); the specification and the lemmas here
write the numeral. -/
theorem extendedTimestamp_eq : Gen.Rtmp.extendedTimestamp = 16777215 := rfl

theorem Chunks.get_set_same (l : Chunks) (k : Nat) (v : ChunkStream) : (l.set k v).get k = some v := by
  induction l with
  | nil => simp [Chunks.set, Chunks.get]
  | cons p rest ih =>
    obtain ⟨k', v'⟩ := p
    simp only [Chunks.set]
    split
    · simp [Chunks.get]
    · simp [Chunks.get, *]

theorem Chunks.get_set_other (l : Chunks) (k k' : Nat) (v : ChunkStream) (h : k' ≠ k) :
    (l.set k v).get k' = l.get k' := by
  induction l with
  | nil => simp [Chunks.set, Chunks.get, Ne.symm h]
  | cons p rest ih =>
    obtain ⟨k'', v''⟩ := p
    simp only [Chunks.set]
    split
    · rename_i heq
      subst heq
      simp [Chunks.get, Ne.symm h]
    · simp [Chunks.get, ih]

theorem Chunks.getOrNew_set (l : Chunks) (k : Nat) (v : ChunkStream) : (l.set k v).getOrNew k = v := by
  simp only [Chunks.getOrNew, Chunks.get_set_same]

theorem Chunks.getOrNew_of_get {l : Chunks} {k : Nat} {c : ChunkStream} (h : l.get k = some c) : l.getOrNew k = c := by
  simp only [Chunks.getOrNew, h]

theorem Chunks.getOrNew_of_get_none {l : Chunks} {k : Nat} (h : l.get k = none) :
    l.getOrNew k = { cid := k, hdr := { cid := k } } := by
  simp only [Chunks.getOrNew, h]

theorem readBasicHeader_form1 (b : UInt8) (rest : Bytes) (h : 1 < b.toNat % 64) :
    readBasicHeader (b :: rest) = ok ((b.toNat / 64, b.toNat % 64), rest) := by
  simp [readBasicHeader, readFull_one, h]

theorem readBasicHeader_form2 (b b2 : UInt8) (rest : Bytes) (h : b.toNat % 64 = 0) :
    readBasicHeader (b :: b2 :: rest) = ok ((b.toNat / 64, 64 + b2.toNat), rest) := by
  simp only [readBasicHeader, readFull_one, Res.bind_ok, List.headD_cons, gt_iff_lt, h]; rfl

theorem readBasicHeader_form3 (b b2 b3 : UInt8) (rest : Bytes) (h : b.toNat % 64 = 1) :
    readBasicHeader (b :: b2 :: b3 :: rest) = ok ((b.toNat / 64, 64 + b2.toNat + b3.toNat * 256), rest) := by
  simp only [readBasicHeader, readFull_one, Res.bind_ok, List.headD_cons, gt_iff_lt, h]; rfl

theorem basicHeader_firstByte_div_mod (fmt r : Nat) (hf : fmt ≤ 3) (hr : r < 64) :
    (UInt8.ofNat (fmt * 64 + r)).toNat / 64 = fmt ∧ (UInt8.ofNat (fmt * 64 + r)).toNat % 64 = r := by
  rw [UInt8.toNat_ofNat_of_lt' (show fmt * 64 + r < 256 by omega)]; omega

theorem readBasicHeader_spec (fmt cid form : Nat) (hf : fmt ≤ 3) (hl : FormLegal cid form) (rest : Bytes) :
    readBasicHeader (basicHeader fmt cid form ++ rest) = ok ((fmt, cid), rest) := by
  rcases hl with ⟨rfl, h2, h63⟩ | ⟨rfl, h64, h319⟩ | ⟨rfl, h64, h65599⟩
  · obtain ⟨hd, hm⟩ := basicHeader_firstByte_div_mod fmt cid hf (by omega)
    rw [show basicHeader fmt cid 1 ++ rest = UInt8.ofNat (fmt * 64 + cid) :: rest from rfl,
      readBasicHeader_form1 _ _ (by rw [hm]; exact h2), hd, hm]
  · obtain ⟨hd, hm⟩ := basicHeader_firstByte_div_mod fmt 0 hf (by decide)
    rw [show basicHeader fmt cid 2 ++ rest = UInt8.ofNat (fmt * 64 + 0) :: UInt8.ofNat (cid - 64) :: rest from rfl,
      readBasicHeader_form2 _ _ _ hm, hd, UInt8.toNat_ofNat_of_lt' (show cid - 64 < 256 by omega),
      Nat.add_sub_cancel' h64]
  · obtain ⟨hd, hm⟩ := basicHeader_firstByte_div_mod fmt 1 hf (by decide)
    have e2 : (cid - 64) / 256 < 256 := Nat.div_lt_of_lt_mul (by omega)
    rw [show basicHeader fmt cid 3 ++ rest = UInt8.ofNat (fmt * 64 + 1) :: UInt8.ofNat ((cid - 64) % 256) ::
        UInt8.ofNat ((cid - 64) / 256) :: rest from rfl,
      readBasicHeader_form3 _ _ _ _ hm, hd, UInt8.toNat_ofNat_of_lt' (Nat.mod_lt _ (by decide)),
      UInt8.toNat_ofNat_of_lt' e2, Nat.add_assoc, Nat.mod_add_div', Nat.add_sub_cancel' h64]

theorem readBasicHeader_one (fmt cid : Nat) (hf : fmt < 4) (h2 : 2 ≤ cid) (h64 : cid < 64) (rest : Bytes) :
    readBasicHeader (UInt8.ofNat (fmt * 64 + cid) :: rest) = ok ((fmt, cid), rest) :=
  readBasicHeader_spec fmt cid 1 (Nat.le_of_lt_succ hf) (.inl ⟨rfl, h2, Nat.le_of_lt_succ h64⟩) rest

theorem hsz0 : headerSize 0 = ok 11 := rfl
theorem hsz1 : headerSize 1 = ok 7 := rfl
theorem hsz2 : headerSize 2 = ok 3 := rfl
theorem hsz3 : headerSize 3 = ok 0 := rfl

/-- The fields of the message header bytes `p`, where `applyHeader` reads them. -/
def hdrDelta (p : Bytes) : Nat := ofBE (p.take 3)
def hdrLen (p : Bytes) : Nat := ofBE ((p.drop 3).take 3)
def hdrType (p : Bytes) : Nat := ((p.drop 6).headD 0).toNat
def hdrSid (p : Bytes) : Nat := ofLE ((p.drop 7).take 4)

theorem applyHeader_eq (c : ChunkStream) (fmt : Nat) (f : Bool) (p : Bytes) :
    applyHeader c fmt f p =
      if fmt ≤ 2 then
        if fmt ≤ 1 ∧ f = false ∧ c.hdr.len ≠ hdrLen p then err .generic else
        ok ({ tsDelta := hdrDelta p, len := if fmt ≤ 1 then hdrLen p else c.hdr.len, ty := if fmt ≤ 1 then hdrType p else c.hdr.ty,
              sid := if fmt = 0 then hdrSid p else c.hdr.sid, cid := c.hdr.cid,
              ts := if 16777215 ≤ hdrDelta p then c.hdr.ts else if fmt = 0 then hdrDelta p else c.hdr.ts + hdrDelta p },
            decide (16777215 ≤ hdrDelta p))
      else ok ({ c.hdr with ts := if f = true ∧ c.extTs = false then c.hdr.ts + c.hdr.tsDelta else c.hdr.ts }, c.extTs) := by
  unfold applyHeader hdrDelta hdrLen hdrType hdrSid
  by_cases h2 : fmt ≤ 2
  · by_cases h1 : fmt ≤ 1
    · by_cases h0 : fmt = 0 <;> by_cases hx : 16777215 ≤ ofBE (p.take 3) <;>
        simp [h2, h1, h0, hx, extendedTimestamp_eq]
    · have h0 : fmt ≠ 0 := by omega
      by_cases hx : 16777215 ≤ ofBE (p.take 3) <;> simp [h2, h1, h0, hx, extendedTimestamp_eq]
  · cases f <;> cases c.extTs <;> simp [h2]

def ChunkStream.got (c : ChunkStream) : Bytes := match c.msg with | some m => m.payload | none => []

theorem ChunkStream.got_of_msg_none {c : ChunkStream} (h : c.msg = none) : c.got = [] := by rw [got, h]

theorem ChunkStream.got_of_msg_some {c : ChunkStream} {m : Msg} (h : c.msg = some m) : c.got = m.payload := by
  rw [got, h]

theorem readMessageHeader_of_applyHeader {c : ChunkStream} {fmt : Nat} {p : Bytes} {h : Header} {ext : Bool} (v : Nat)
    (tail : Bytes) (hadm : c.count ≠ 0 ∨ fmt = 0 ∨ (c.cid = 2 ∧ fmt = 1)) (h0 : c.msg.isSome = true → fmt ≠ 0)
    (hn : headerSize fmt = ok p.length) (ha : applyHeader c fmt c.msg.isNone p = ok (h, ext)) (hv : v < 4294967296) :
    readMessageHeader c fmt (p ++ ((if ext then be 4 v else []) ++ tail)) =
      ok ({ c with hdr := { h with ts := (if ext then v else h.ts) % 2147483648 },
                   msg := some { hdr := { h with ts := (if ext then v else h.ts) % 2147483648 }, payload := c.got },
                   count := c.count + 1, extTs := ext }, tail) := by
  have g1 : ¬ (c.count = 0 ∧ fmt ≠ 0 ∧ ¬ (c.cid = Gen.Rtmp.chunkIDProtocolControl ∧ fmt = 1)) := by
    rintro ⟨a, b, d⟩
    rcases hadm with h | h | h
    · exact h a
    · exact b h
    · exact d h
  have g2 : ¬ (c.msg.isSome = true ∧ fmt = 0) := fun ⟨a, b⟩ => h0 a b
  simp only [readMessageHeader, if_neg g1, if_neg g2, hn, Res.bind_ok, readFull_append p _ rfl, ha]
  cases ext
  · simp only [Bool.false_eq_true, if_false, Res.pure_eq, Res.bind_ok, List.nil_append]
    rfl
  · simp only [if_true, readFull_append _ tail (be_length 4 v), ofBE_be_of_lt (show v < 256 ^ 4 from hv), Res.bind_ok,
      Res.pure_eq, Nat.mod_mod]
    rfl

/-- The extended-timestamp step of `readMessageHeader` on its own, on the field as the specification writes it. -/
theorem readExtSpec (t : Nat) (ht : t < 4294967296) (h : Header) (tail : Bytes) :
    ((if decide (16777215 ≤ t) then do
        let (e, bs) ← readFull 4 ((if 16777215 ≤ t then be 4 t else []) ++ tail)
        pure ({ h with ts := ofBE e % 2147483648 }, bs)
      else pure (h, (if 16777215 ≤ t then be 4 t else []) ++ tail) : Res (Header × Bytes)))
    = ok ((if 16777215 ≤ t then { h with ts := t % 2147483648 } else h), tail) := by
  by_cases hx : 16777215 ≤ t
  · have e : readFull 4 (be 4 t ++ tail) = ok (be 4 t, tail) := readFull_append _ _ (be_length 4 t)
    have h4 : ofBE (be 4 t) = t := ofBE_be_of_lt (by omega)
    simp [hx, e, h4]
  · simp [hx]

theorem hdrDelta_append {a : Bytes} (r : Bytes) (ha : a.length = 3) : hdrDelta (a ++ r) = ofBE a := by
  rw [hdrDelta, take_append_len a r ha]

theorem hdrLen_append {a b : Bytes} (r : Bytes) (ha : a.length = 3) (hb : b.length = 3) : hdrLen (a ++ (b ++ r)) = ofBE b := by
  rw [hdrLen, drop_append_len a _ ha, take_append_len b r hb]

theorem hdrType_append {a b : Bytes} (t : UInt8) (r : Bytes) (ha : a.length = 3) (hb : b.length = 3) :
    hdrType (a ++ (b ++ t :: r)) = t.toNat := by
  rw [hdrType, show (6 : Nat) = 3 + 3 from rfl, ← List.drop_drop, drop_append_len a _ ha, drop_append_len b _ hb]; rfl

theorem hdrSid_append {a b d : Bytes} (t : UInt8) (ha : a.length = 3) (hb : b.length = 3) (hd : d.length = 4) :
    hdrSid (a ++ (b ++ t :: d)) = ofLE d := by
  rw [hdrSid, show (7 : Nat) = 3 + (3 + 1) from rfl, ← List.drop_drop, ← List.drop_drop, drop_append_len a _ ha,
    drop_append_len b _ hb, List.drop_one, List.tail_cons, List.take_of_length_le (Nat.le_of_eq hd)]

theorem tsWire_lt (t : Nat) : tsWire t < 16777216 := by unfold tsWire; split <;> omega
theorem le_tsWire_iff (t : Nat) : 16777215 ≤ tsWire t ↔ 16777215 ≤ t := by unfold tsWire; split <;> omega
theorem tsWire_of_not_le {t : Nat} (h : ¬ 16777215 ≤ t) : tsWire t = t := by unfold tsWire; split <;> omega

theorem messageHeader_fields (e : ChunkEv) (hf : e.fmt ≤ 3) (hl : e.len < 16777216) (ht : e.ty < 256)
    (hs : e.sid < 4294967296) :
    headerSize e.fmt = ok (messageHeader e).length ∧ (e.fmt ≤ 2 → hdrDelta (messageHeader e) = tsWire e.tsField) ∧
    (e.fmt ≤ 1 → hdrLen (messageHeader e) = e.len ∧ hdrType (messageHeader e) = e.ty) ∧
    (e.fmt = 0 → hdrSid (messageHeader e) = e.sid) := by
  have hD : ofBE (be 3 (tsWire e.tsField)) = tsWire e.tsField := ofBE_be_of_lt (by have := tsWire_lt e.tsField; omega)
  have hL : ofBE (be 3 e.len) = e.len := ofBE_be_of_lt (by omega)
  have hT := UInt8.toNat_ofNat_of_lt' ht
  have hS : ofLE (le 4 e.sid) = e.sid := ofLE_le_of_lt (by omega)
  have h3 := be_length 3
  have : e.fmt = 0 ∨ e.fmt = 1 ∨ e.fmt = 2 ∨ e.fmt = 3 := by omega
  rcases this with h | h | h | h
  · have : messageHeader e = be 3 (tsWire e.tsField) ++ (be 3 e.len ++ UInt8.ofNat e.ty :: le 4 e.sid) := by
      simp [messageHeader, h]
    rw [this, h, hdrDelta_append _ (h3 _), hdrLen_append _ (h3 _) (h3 _), hdrType_append _ _ (h3 _) (h3 _),
      hdrSid_append _ (h3 _) (h3 _) (le_length 4 _), hD, hL, hT, hS]
    exact ⟨hsz0.trans (by simp), fun _ => rfl, fun _ => ⟨rfl, rfl⟩, fun _ => rfl⟩
  · have : messageHeader e = be 3 (tsWire e.tsField) ++ (be 3 e.len ++ [UInt8.ofNat e.ty]) := by
      simp [messageHeader, h]
    rw [this, h, hdrDelta_append _ (h3 _), hdrLen_append _ (h3 _) (h3 _), hdrType_append _ _ (h3 _) (h3 _), hD, hL, hT]
    exact ⟨hsz1.trans (by simp), fun _ => rfl, fun _ => ⟨rfl, rfl⟩, nofun⟩
  · have : messageHeader e = be 3 (tsWire e.tsField) ++ [] := by simp [messageHeader, h]
    rw [this, h, hdrDelta_append _ (h3 _), hD]
    exact ⟨hsz2.trans (by simp), fun _ => rfl, fun h => absurd h (by decide), nofun⟩
  · have : messageHeader e = [] := by simp [messageHeader, h]
    rw [this, h]
    exact ⟨hsz3, fun h => absurd h (by decide), fun h => absurd h (by decide), nofun⟩

/-- Chunk stream `c` admits the chunk header of `e`: the fields fit their widths; `c` is started, or the header is
type 0 (or the librtmp form: type 1 on chunk stream 2); inside a message no type 0; the message length is the one
`e` carries wherever the reader compares or keeps it; a type-3 header repeats the extended timestamp exactly when
`c` expects it. -/
structure Admits (c : ChunkStream) (e : ChunkEv) : Prop where
  form : FormLegal e.cid e.bhForm
  fmt : e.fmt ≤ 3
  ts : e.tsField < 4294967296
  len : e.len < 16777216
  ty : e.ty < 256
  sid : e.sid < 4294967296
  started : c.count ≠ 0 ∨ e.fmt = 0 ∨ (c.cid = 2 ∧ e.fmt = 1)
  inside : c.msg.isSome = true → e.fmt ≠ 0
  sameLen : c.msg.isSome = true ∨ ¬ e.fmt ≤ 1 → c.hdr.len = e.len
  ext3 : e.fmt = 3 → c.extTs = decide (16777215 ≤ e.tsField)

/-- The timestamp the reader gives the message of a chunk whose header is that of `e`: an extended timestamp field
is taken as the time itself, whatever the header type (for types 1, 2, 3 the specification means a delta: K2). -/
def wireTs (c : ChunkStream) (e : ChunkEv) : Nat :=
  if 16777215 ≤ e.tsField ∨ e.fmt = 0 then e.tsField
  else if e.fmt ≤ 2 then c.hdr.ts + e.tsField
  else if c.msg.isNone then c.hdr.ts + c.hdr.tsDelta else c.hdr.ts

/-- The header the reader holds after the chunk header of `e`: the fields the header type carries are those of `e`,
the others stay. -/
def wireHdr (c : ChunkStream) (e : ChunkEv) : Header :=
  { tsDelta := if e.fmt ≤ 2 then tsWire e.tsField else c.hdr.tsDelta,
    len := if e.fmt ≤ 1 then e.len else c.hdr.len, ty := if e.fmt ≤ 1 then e.ty else c.hdr.ty,
    sid := if e.fmt = 0 then e.sid else c.hdr.sid, cid := c.hdr.cid, ts := wireTs c e % 2147483648 }

theorem wireTs_abs {c : ChunkStream} {e : ChunkEv} (h : 16777215 ≤ e.tsField ∨ e.fmt = 0) : wireTs c e = e.tsField :=
  if_pos h

theorem wireTs_type3 {c : ChunkStream} {e : ChunkEv} (hx : ¬ 16777215 ≤ e.tsField) (h3 : e.fmt = 3) :
    wireTs c e = if c.msg.isNone then c.hdr.ts + c.hdr.tsDelta else c.hdr.ts := by
  rw [wireTs, if_neg (not_or.mpr ⟨hx, by rw [h3]; decide⟩), if_neg (by rw [h3]; decide)]

theorem wireHdr_type3 {c : ChunkStream} {e : ChunkEv} (h3 : e.fmt = 3) :
    wireHdr c e = { c.hdr with ts := wireTs c e % 2147483648 } := by
  simp only [wireHdr, h3]; rfl

theorem Admits.wireHdr_len {c : ChunkStream} {e : ChunkEv} (h : Admits c e) : (wireHdr c e).len = e.len := by
  simp only [wireHdr]
  split
  · rfl
  · exact h.sameLen (.inr ‹_›)

/-- An extended field leaves the time as it was: the 4 bytes that follow give it. -/
theorem applyHeader_wire {c : ChunkStream} {e : ChunkEv} (h : Admits c e) :
    applyHeader c e.fmt c.msg.isNone (messageHeader e) =
      ok ({ wireHdr c e with ts := if 16777215 ≤ e.tsField then c.hdr.ts else wireTs c e },
          decide (16777215 ≤ e.tsField)) := by
  obtain ⟨-, hD, hLT, hS⟩ := messageHeader_fields e h.fmt h.len h.ty h.sid
  rw [applyHeader_eq]
  by_cases h2 : e.fmt ≤ 2
  · have hg : ¬ (e.fmt ≤ 1 ∧ c.msg.isNone = false ∧ c.hdr.len ≠ hdrLen (messageHeader e)) := by
      rintro ⟨h1, hn, hne⟩
      rw [(hLT h1).1] at hne
      exact hne (h.sameLen (.inl (by cases hm : c.msg <;> simp_all)))
    have hL : (if e.fmt ≤ 1 then hdrLen (messageHeader e) else c.hdr.len) = if e.fmt ≤ 1 then e.len else c.hdr.len :=
      ite_congr rfl (fun h1 => (hLT h1).1) fun _ => rfl
    have hT : (if e.fmt ≤ 1 then hdrType (messageHeader e) else c.hdr.ty) = if e.fmt ≤ 1 then e.ty else c.hdr.ty :=
      ite_congr rfl (fun h1 => (hLT h1).2) fun _ => rfl
    have hS : (if e.fmt = 0 then hdrSid (messageHeader e) else c.hdr.sid) = if e.fmt = 0 then e.sid else c.hdr.sid :=
      ite_congr rfl hS fun _ => rfl
    rw [if_pos h2, if_neg hg, hD h2, hL, hT, hS]
    simp only [le_tsWire_iff]
    by_cases hx : 16777215 ≤ e.tsField
    · simp [wireHdr, h2, hx]
    · simp [wireHdr, wireTs, h2, hx, tsWire_of_not_le hx]
  · have hf3 : e.fmt = 3 := by have := h.fmt; omega
    rw [if_neg h2, h.ext3 hf3, wireHdr_type3 hf3]
    by_cases hx : 16777215 ≤ e.tsField
    · simp [hx]
    · simp [hx, wireTs_type3 hx hf3]

theorem readMessageHeader_wire (c : ChunkStream) (e : ChunkEv) (tail : Bytes) (h : Admits c e) :
    readMessageHeader c e.fmt (messageHeader e ++ (extendedTimestamp e ++ tail)) =
      ok ({ c with hdr := wireHdr c e, msg := some { hdr := wireHdr c e, payload := c.got },
                   count := c.count + 1, extTs := decide (16777215 ≤ e.tsField) }, tail) := by
  have hx : extendedTimestamp e = if decide (16777215 ≤ e.tsField) = true then be 4 e.tsField else [] := by
    simp [extendedTimestamp]
  obtain ⟨hsz, -⟩ := messageHeader_fields e h.fmt h.len h.ty h.sid
  rw [hx, readMessageHeader_of_applyHeader e.tsField tail h.started h.inside hsz (applyHeader_wire h) h.ts]
  have hts : (if decide (16777215 ≤ e.tsField) = true then e.tsField
      else if 16777215 ≤ e.tsField then c.hdr.ts else wireTs c e) = wireTs c e := by
    by_cases hx : 16777215 ≤ e.tsField
    · rw [if_pos (decide_eq_true hx), wireTs_abs (.inl hx)]
    · simp only [hx, decide_false, Bool.false_eq_true, if_false]
  rw [hts]; rfl

/-- The payload stage on a chunk stream whose partial message is no longer than announced (always so after
`readMessageHeader`): it reads what is missing, at most a chunk. A message of length 0 reads nothing. -/
theorem readMessagePayload_eq (ic : Nat) {c : ChunkStream} {m : Msg} (hm : c.msg = some m)
    (hle : m.payload.length ≤ m.hdr.len) (bs : Bytes) :
    readMessagePayload ic c bs = readFull (min (m.hdr.len - m.payload.length) ic) bs >>= fun (b, bs) =>
      if m.payload.length + b.length = m.hdr.len
      then ok (({ c with msg := none }, some { m with payload := m.payload ++ b }), bs)
      else ok (({ c with msg := some { m with payload := m.payload ++ b } }, none), bs) := by
  unfold readMessagePayload
  rw [hm]
  dsimp only
  by_cases h0 : m.hdr.len = 0
  · obtain ⟨hd, p⟩ := m
    obtain rfl : p = [] := List.length_eq_zero_iff.mp (Nat.le_zero.mp (h0 ▸ hle))
    simp [show hd.len = 0 from h0, readFull]
  · rw [if_neg h0, if_neg (Nat.not_lt.mpr hle)]
    simp only [List.length_append, eq_comm (a := m.hdr.len)]
    rfl

/-- Protocol-control bodies the reader itself decodes must be well formed. -/
def Msg.CtlOK (m : Msg) : Prop :=
  (m.hdr.ty = 1 → 4 ≤ m.payload.length) ∧
  (m.hdr.ty = 5 → 4 ≤ m.payload.length) ∧
  (m.hdr.ty = 4 → 3 ≤ m.payload.length ∧ userControlSize (ofBE (m.payload.take 2)) ≤ m.payload.length)

theorem onMessageArrived_eq (ic : Nat) (m : Msg) (h : m.CtlOK) :
    onMessageArrived ic m = ok (if m.hdr.ty = 1 then ofBE (m.payload.take 4) else ic) := by
  obtain ⟨h1, h5, h4⟩ := h
  unfold onMessageArrived
  by_cases t1 : m.hdr.ty = Gen.Rtmp.MessageTypeSetChunkSize
  · rw [if_pos t1, if_pos (show m.hdr.ty = 1 from t1), if_neg (Nat.not_lt.mpr (h1 t1))]
  · rw [if_neg t1, if_neg (show ¬ m.hdr.ty = 1 from t1)]
    by_cases t5 : m.hdr.ty = Gen.Rtmp.MessageTypeWindowAcknowledgementSize
    · rw [if_pos t5, if_neg (Nat.not_lt.mpr (h5 t5))]
    · rw [if_neg t5]
      by_cases t4 : m.hdr.ty = Gen.Rtmp.MessageTypeUserControl
      · rw [if_pos t4, if_neg (Nat.not_lt.mpr (h4 t4).1), if_neg (Nat.not_lt.mpr (h4 t4).2)]
      · rw [if_neg t4]

theorem readChunk_wire (st : Reader) (e : ChunkEv) (rest : Bytes) {ch : ChunkStream} (hch : st.chunks.getOrNew e.cid = ch)
    (h : Admits ch e) (hpre : ch.got.length ≤ e.len) (hd : e.data.length = min (e.len - ch.got.length) st.inChunk) :
    readChunk st (chunkBytes e ++ rest) =
      if ch.got.length + e.data.length = e.len then
        onMessageArrived st.inChunk { hdr := wireHdr ch e, payload := ch.got ++ e.data } >>= fun ic =>
        ok (({ inChunk := ic, chunks := st.chunks.set e.cid { ch with
                  hdr := wireHdr ch e, msg := none, count := ch.count + 1, extTs := decide (16777215 ≤ e.tsField) } },
             some { hdr := wireHdr ch e, payload := ch.got ++ e.data }), rest)
      else ok (({ st with chunks := st.chunks.set e.cid { ch with
                  hdr := wireHdr ch e, msg := some { hdr := wireHdr ch e, payload := ch.got ++ e.data },
                  count := ch.count + 1, extTs := decide (16777215 ≤ e.tsField) } }, none), rest) := by
  have hL := h.wireHdr_len
  have hbytes : chunkBytes e ++ rest =
      basicHeader e.fmt e.cid e.bhForm ++ (messageHeader e ++ (extendedTimestamp e ++ (e.data ++ rest))) := by
    simp only [chunkBytes, List.append_assoc]
  rw [hbytes]
  simp only [readChunk, readBasicHeader_spec _ _ _ h.fmt h.form, Res.bind_ok, hch]
  rw [readMessageHeader_wire ch e _ h]
  simp only [Res.bind_ok]
  rw [readMessagePayload_eq st.inChunk (m := { hdr := wireHdr ch e, payload := ch.got }) rfl (hL.symm ▸ hpre),
    readFull_append e.data rest (hL.symm ▸ hd)]
  simp only [Res.bind_ok, hL]
  split <;> rfl

theorem chunkBytes_length_pos (e : ChunkEv) : 1 ≤ (chunkBytes e).length := by
  have : 1 ≤ (basicHeader e.fmt e.cid e.bhForm).length := by
    unfold basicHeader; split
    · exact Nat.le_refl 1
    · split <;> exact Nat.succ_le_succ (Nat.zero_le _)
  simp only [chunkBytes, List.length_append]; omega

/-! ### `readMessage` and `readMessages` by what `readChunk` returns -/

theorem readMessage_chunk_err {st : Reader} {bs : Bytes} {k : EK} (h : readChunk st bs = err k) :
    readMessage st bs = err k := by
  simp [readMessage, readLoop, h]

theorem readLoop_mono : ∀ (fuel fuel' : Nat) (st : Reader) (bs : Bytes) (r : (Msg × Reader) × Bytes),
    fuel ≤ fuel' → readLoop fuel st bs = ok r → readLoop fuel' st bs = ok r := by
  intro fuel
  induction fuel with
  | zero => intro fuel' st bs r _ h; simp [readLoop] at h
  | succ fuel ih =>
    intro fuel' st bs r hle h
    obtain ⟨f', rfl⟩ : ∃ f', fuel' = f' + 1 := ⟨fuel' - 1, by omega⟩
    unfold readLoop at h ⊢
    obtain ⟨⟨⟨st1, om⟩, b1⟩, h1, h⟩ := Res.bind_eq_ok.mp h
    rw [h1, Res.bind_ok]
    cases om with
    | some m1 => exact h
    | none => exact ih f' st1 b1 r (by omega) h

theorem readMessage_chunk_some {st st1 : Reader} {bs bs1 : Bytes} {m : Msg}
    (h : readChunk st bs = ok ((st1, some m), bs1)) : readMessage st bs = ok ((m, st1), bs1) := by
  simp [readMessage, readLoop, h]

theorem readMessage_chunk_none {st st1 : Reader} {e : ChunkEv} {bs1 : Bytes} {r : (Msg × Reader) × Bytes}
    (h : readChunk st (chunkBytes e ++ bs1) = ok ((st1, none), bs1)) (h1 : readMessage st1 bs1 = ok r) :
    readMessage st (chunkBytes e ++ bs1) = ok r := by
  simp only [readMessage, readLoop, h, Res.bind_ok]
  refine readLoop_mono _ _ _ _ _ ?_ h1
  rw [List.length_append, Nat.add_comm (chunkBytes e).length]
  exact Nat.add_le_add_left (chunkBytes_length_pos e) _

theorem readMessages_chunk_some {st st1 st' : Reader} {bs bs1 rest : Bytes} {m : Msg} {ms : List Msg} {k : Nat}
    (h : readChunk st bs = ok ((st1, some m), bs1)) (h1 : readMessages k st1 bs1 = ok ((ms, st'), rest)) :
    readMessages (k + 1) st bs = ok ((m :: ms, st'), rest) := by
  simp only [readMessages, readMessage_chunk_some h, Res.bind_ok, h1, Res.pure_eq]

theorem readMessages_chunk_none {st st1 : Reader} {e : ChunkEv} {bs1 : Bytes} {k : Nat} {r : (List Msg × Reader) × Bytes}
    (h : readChunk st (chunkBytes e ++ bs1) = ok ((st1, none), bs1)) (h1 : readMessages (k + 1) st1 bs1 = ok r) :
    readMessages (k + 1) st (chunkBytes e ++ bs1) = ok r := by
  simp only [readMessages] at h1 ⊢
  obtain ⟨r1, hr1, _⟩ := Res.bind_eq_ok.mp h1
  rw [readMessage_chunk_none h hr1, ← hr1]
  exact h1

/-! ### headers the reader refuses, whatever its state and whatever follows -/

theorem readMessageHeader_type0_inside {c : ChunkStream} (h : c.msg.isSome = true) (bs : Bytes) :
    readMessageHeader c 0 bs = err .generic := by
  simp [readMessageHeader, h]

theorem readMessageHeader_fresh {c : ChunkStream} {fmt : Nat} (hc : c.count = 0) (hf : fmt ≠ 0)
    (hnp : ¬ (c.cid = 2 ∧ fmt = 1)) (bs : Bytes) : readMessageHeader c fmt bs = err .generic := by
  have : c.count = 0 ∧ fmt ≠ 0 ∧ ¬ (c.cid = Gen.Rtmp.chunkIDProtocolControl ∧ fmt = 1) := ⟨hc, hf, hnp⟩
  simp only [readMessageHeader, if_pos this]

theorem readMessageHeader_length_changed {c : ChunkStream} (h : c.msg.isSome = true) {p : Bytes} (hp : p.length = 7)
    (hne : c.hdr.len ≠ hdrLen p) (bs : Bytes) : readMessageHeader c 1 (p ++ bs) = err .generic := by
  have hn : c.msg.isNone = false := by cases hm : c.msg <;> simp_all
  have ha : applyHeader c 1 false p = err .generic := by
    rw [applyHeader_eq, if_pos (by decide), if_pos ⟨by decide, rfl, hne⟩]
  unfold readMessageHeader
  by_cases g : c.count = 0 ∧ 1 ≠ 0 ∧ ¬ (c.cid = Gen.Rtmp.chunkIDProtocolControl ∧ 1 = 1)
  · rw [if_pos g]
  · rw [if_neg g, if_neg (fun h => absurd h.2 (by decide)), hsz1, Res.bind_ok,
      readFull_append p bs hp, Res.bind_ok, hn]
    dsimp only
    rw [ha]; rfl

theorem readChunk_reject (st : Reader) {fmt cid form : Nat} (hf : fmt ≤ 3) (hl : FormLegal cid form) {bs : Bytes} {k : EK}
    (h : readMessageHeader (st.chunks.getOrNew cid) fmt bs = err k) :
    readChunk st (basicHeader fmt cid form ++ bs) = err k ∧ readMessage st (basicHeader fmt cid form ++ bs) = err k := by
  have : readChunk st (basicHeader fmt cid form ++ bs) = err k := by
    simp only [readChunk, readBasicHeader_spec fmt cid form hf hl, Res.bind_ok, h, Res.bind_err]
  exact ⟨this, readMessage_chunk_err this⟩

/-! ### on any bytes: no panic, and every step consumes input -/

/-- An unfinished message carries its chunk stream's header and is strictly shorter than announced. -/
def ChunkOK (ch : ChunkStream) : Prop :=
  ∀ m, ch.msg = some m → m.hdr = ch.hdr ∧ m.payload.length < m.hdr.len

def ReaderInv (st : Reader) : Prop := ∀ k ch, st.chunks.get k = some ch → ChunkOK ch

/-- What `readMessagePayload` needs of the chunk stream `readMessageHeader` hands it. -/
def Ready (c : ChunkStream) : Prop := ∃ m, c.msg = some m ∧ m.hdr = c.hdr ∧ m.payload.length ≤ m.hdr.len

theorem readerInv_init : ReaderInv {} := by
  intro k ch h; simp [Chunks.get] at h

theorem chunkOK_of_none {c : ChunkStream} (h : c.msg = none) : ChunkOK c := fun m hm => by rw [h] at hm; cases hm

theorem chunkOK_getOrNew (st : Reader) (h : ReaderInv st) (cid : Nat) : ChunkOK (st.chunks.getOrNew cid) := by
  cases hg : st.chunks.get cid with
  | none => rw [Chunks.getOrNew_of_get_none hg]; exact chunkOK_of_none rfl
  | some c => rw [Chunks.getOrNew_of_get hg]; exact h cid c hg

theorem readerInv_set (st : Reader) (h : ReaderInv st) (cid : Nat) (c : ChunkStream) (hc : ChunkOK c) (ic : Nat) :
    ReaderInv { inChunk := ic, chunks := st.chunks.set cid c } := by
  intro k ch hk
  by_cases hkc : k = cid
  · subst hkc
    simp only [Chunks.get_set_same, Option.some.injEq] at hk
    subst hk; exact hc
  · simp only [Chunks.get_set_other _ _ _ _ hkc] at hk
    exact h k ch hk

theorem readBasicHeader_sat (bs : Bytes) :
    (readBasicHeader bs).Sat fun r => r.1.1 ≤ 3 ∧ r.2.length < bs.length := by
  unfold readBasicHeader
  refine .readFull fun b r hb hbs => ?_
  have hfmt : (b.headD 0).toNat / 64 ≤ 3 := by have := UInt8.toNat_lt (b.headD 0); omega
  have hl : r.length < bs.length := by rw [hbs, List.length_append, hb]; exact Nat.lt_add_of_pos_left Nat.one_pos
  refine Res.sat_ite (fun _ => Res.sat_ok ⟨hfmt, hl⟩) fun _ => .readFull fun b2 r2 _ hbs2 => ?_
  have hl2 : r2.length ≤ r.length := by rw [hbs2, List.length_append]; exact Nat.le_add_left _ _
  dsimp only
  refine Res.sat_ite (fun _ => .readFull fun b3 r3 _ hbs3 => Res.sat_ok ⟨hfmt, ?_⟩)
    fun _ => Res.sat_ok ⟨hfmt, Nat.lt_of_le_of_lt hl2 hl⟩
  have hl3 : r3.length ≤ r2.length := by rw [hbs3, List.length_append]; exact Nat.le_add_left _ _
  exact Nat.lt_of_le_of_lt (Nat.le_trans hl3 hl2) hl

theorem applyHeader_sat (c : ChunkStream) (fmt : Nat) (isFirst : Bool) (p : Bytes) :
    (applyHeader c fmt isFirst p).Sat fun r => isFirst = false → r.1.len = c.hdr.len := by
  rw [applyHeader_eq]
  refine Res.sat_ite (fun _ => Res.sat_ite (fun _ => Res.sat_err) fun h => Res.sat_ok fun hf => ?_)
    fun _ => Res.sat_ok fun _ => rfl
  dsimp only
  split
  · rename_i h1; exact Classical.byContradiction fun hne => h ⟨h1, hf, fun e => hne e.symm⟩
  · rfl

theorem headerSize_sat {fmt : Nat} (hf : fmt ≤ 3) : (headerSize fmt).Sat fun _ => True :=
  (idx_sat Gen.Rtmp.messageHeaderSizes fmt (Nat.lt_succ_of_le hf)).imp fun _ _ => trivial

theorem readMessageHeader_sat {c : ChunkStream} {fmt : Nat} (hc : ChunkOK c) (hf : fmt ≤ 3) (bs : Bytes) :
    (readMessageHeader c fmt bs).Sat fun r => r.2.length ≤ bs.length ∧ Ready r.1 := by
  simp only [readMessageHeader]
  refine Res.sat_ite (fun _ => Res.sat_err) fun _ => Res.sat_ite (fun _ => Res.sat_err) fun _ => ?_
  refine (headerSize_sat hf).bind fun n _ => ?_
  refine .readFull fun p b1 _ hbs => ?_
  have l1 := congrArg List.length hbs
  rw [List.length_append] at l1
  refine (applyHeader_sat c fmt c.msg.isNone p).bind ?_
  rintro ⟨hd, ext⟩ hlen
  dsimp only
  -- whatever the extended timestamp does, the announced length is that of `hd`
  refine Res.Sat.bind (P := fun r => r.1.len = hd.len ∧ r.2.length ≤ b1.length) ?_ ?_
  · refine Res.sat_ite (fun _ => .readFull fun e b2 _ hbs2 => Res.sat_ok ⟨rfl, by simp [hbs2]⟩)
      fun _ => Res.sat_ok ⟨rfl, Nat.le_refl _⟩
  · rintro ⟨hd', b2⟩ ⟨hl, hb⟩
    refine Res.sat_ok ⟨by dsimp only at hb ⊢; omega, _, rfl, rfl, ?_⟩
    cases hm : c.msg with
    | none => simp
    | some m0 =>
      obtain ⟨hh0, hl0⟩ := hc m0 hm
      have := hlen (by simp [hm])
      dsimp only at this hl ⊢
      rw [hl, this, ← hh0]; omega

theorem readMessagePayload_sat (ic : Nat) {c : ChunkStream} (hc : Ready c) (bs : Bytes) :
    (readMessagePayload ic c bs).Sat fun r => r.2.length ≤ bs.length ∧ ChunkOK r.1.1 := by
  obtain ⟨m, hm, hh, hl⟩ := hc
  rw [readMessagePayload_eq ic hm hl]
  refine .readFull fun b b1 hb hbs => ?_
  have l1 : b1.length ≤ bs.length := by rw [hbs, List.length_append]; exact Nat.le_add_left _ _
  refine Res.sat_ite (fun _ => Res.sat_ok ⟨l1, chunkOK_of_none rfl⟩) fun hne => Res.sat_ok ⟨l1, fun m' hm' => ?_⟩
  obtain rfl := Option.some.inj hm'
  exact ⟨hh, by simp only [List.length_append]; omega⟩

theorem onMessageArrived_sat (ic : Nat) (m : Msg) : (onMessageArrived ic m).Sat fun _ => True :=
  Res.sat_ite (fun _ => Res.sat_ite (fun _ => Res.sat_err) fun _ => Res.sat_ok trivial) fun _ =>
  Res.sat_ite (fun _ => Res.sat_ite (fun _ => Res.sat_err) fun _ => Res.sat_ok trivial) fun _ =>
  Res.sat_ite (fun _ => Res.sat_ite (fun _ => Res.sat_err) fun _ =>
    Res.sat_ite (fun _ => Res.sat_err) fun _ => Res.sat_ok trivial) fun _ =>
  Res.sat_ok trivial

theorem readChunk_sat {st : Reader} (hst : ReaderInv st) (bs : Bytes) :
    (readChunk st bs).Sat fun r => ReaderInv r.1.1 ∧ r.2.length < bs.length := by
  unfold readChunk
  refine (readBasicHeader_sat bs).bind ?_
  rintro ⟨⟨fmt, cid⟩, b1⟩ ⟨hf, l1⟩
  refine (readMessageHeader_sat (chunkOK_getOrNew st hst cid) hf b1).bind ?_
  rintro ⟨c1, b2⟩ ⟨l2, hr⟩
  refine (readMessagePayload_sat st.inChunk hr b2).bind ?_
  rintro ⟨⟨c2, om⟩, b3⟩ ⟨l3, hc2⟩
  dsimp only at l1 l2 l3 hc2 ⊢
  cases om with
  | none => exact Res.sat_ok ⟨readerInv_set st hst cid c2 hc2 _, by dsimp only; omega⟩
  | some m =>
    refine (onMessageArrived_sat st.inChunk m).bind fun ic _ => ?_
    exact Res.sat_ok ⟨readerInv_set st hst cid c2 hc2 _, by dsimp only; omega⟩

/-- The loop fuel of the model is never exhausted: every iteration consumes a byte. -/
theorem readLoop_sat : ∀ (fuel : Nat) (st : Reader) (bs : Bytes), ReaderInv st → bs.length < fuel →
    (readLoop fuel st bs).Sat fun r => ReaderInv r.1.2 ∧ r.2.length < bs.length := by
  intro fuel
  induction fuel with
  | zero => intro st bs _ h; omega
  | succ fuel ih =>
    intro st bs hst hl
    unfold readLoop
    refine (readChunk_sat hst bs).bind ?_
    rintro ⟨⟨st1, om⟩, b1⟩ ⟨hst1, l1⟩
    cases om with
    | some m => exact Res.sat_ok ⟨hst1, l1⟩
    | none => exact (ih st1 b1 hst1 (by dsimp only at l1; omega)).imp fun a h => ⟨h.1, Nat.lt_trans h.2 l1⟩

theorem readMessage_ne_panic {st : Reader} (hst : ReaderInv st) (bs : Bytes) : readMessage st bs ≠ .panic :=
  (readLoop_sat _ st bs hst (Nat.lt_succ_self _)).ne_panic

theorem readMessage_ok {st st' : Reader} {m : Msg} {bs bs' : Bytes} (hst : ReaderInv st)
    (h : readMessage st bs = ok ((m, st'), bs')) : ReaderInv st' ∧ bs'.length < bs.length :=
  (readLoop_sat _ st bs hst (Nat.lt_succ_self _)).of_ok h

theorem readMessages_ne_panic : ∀ (k : Nat) (st : Reader) (bs : Bytes), ReaderInv st →
    readMessages k st bs ≠ .panic := by
  intro k
  induction k with
  | zero => intro st bs _; simp [readMessages]
  | succ k ih =>
    intro st bs hst
    unfold readMessages
    refine Res.bind_ne_panic (readMessage_ne_panic hst _) ?_
    rintro ⟨⟨m, st1⟩, b1⟩ h1
    refine Res.bind_ne_panic (ih st1 b1 (readMessage_ok hst h1).1) ?_
    rintro ⟨⟨ms, st2⟩, b2⟩ _
    simp

end Rtmp
end Oryx
