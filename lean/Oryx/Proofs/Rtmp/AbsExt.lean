/-
  The two readings of the extended timestamp field (`absExt = false`: the specification, `absExt = true`:
  "always the time itself", what the reader implements, K2) accept the same traces, produce the same messages up to
  the timestamps and end at a message boundary together (`run_sim`); they coincide on traces without extended delta
  (`run_noExt`), so that there the reader decodes what the specification says (`decode_noExt`, from `decode_from`).
-/
import Oryx.Proofs.Rtmp.Refine
namespace Oryx.Rtmp
open Oryx Oryx.Res Oryx.Spec.RtmpChunk

def csNoTs (c : CsState) : CsState := { c with ts := 0 }

def SameButTs (s1 s2 : Sender) : Prop :=
  s1.chunkSize = s2.chunkSize ∧ ∀ k, (s1.cs k).map csNoTs = (s2.cs k).map csNoTs

def noTs (m : Message) : Message := { m with ts := 0 }

theorem sameButTs_refl (s : Sender) : SameButTs s s := ⟨rfl, fun _ => rfl⟩

theorem lookup_same {s1 s2 : Sender} (h : SameButTs s1 s2) (e : ChunkEv) :
    (lookup s1 e).map csNoTs = (lookup s2 e).map csNoTs := by
  have hk := h.2 e.cid
  unfold lookup
  cases h1 : s1.cs e.cid <;> cases h2 : s2.cs e.cid <;> simp_all

theorem sameButTs_set {s1 s2 : Sender} (h : SameButTs s1 s2) (cid : Nat) {c1 c2 : CsState} (hc : csNoTs c1 = csNoTs c2)
    (n : Nat) : SameButTs (s1.setCs cid c1 n) (s2.setCs cid c2 n) := by
  refine ⟨rfl, fun k => ?_⟩
  by_cases hk : k = cid
  · simp only [Sender.setCs, hk, if_true, Option.map_some, hc]
  · simp only [Sender.setCs, hk, if_false]; exact h.2 k

theorem step_sim (a b : Bool) {s1 s2 s1' : Sender} {e : ChunkEv} {o1 : Option Message} (h : SameButTs s1 s2)
    (hs : step a s1 e = some (s1', o1)) :
    ∃ s2' o2, step b s2 e = some (s2', o2) ∧ SameButTs s1' s2' ∧ o1.map noTs = o2.map noTs := by
  obtain ⟨c1, hev, hl, hh, hd, hcase⟩ := step_inv hs
  obtain ⟨c2, hl2, hcs⟩ : ∃ c2, lookup s2 e = some c2 ∧ csNoTs c2 = csNoTs c1 :=
    Option.map_eq_some_iff.mp (by rw [← lookup_same h e, hl]; rfl)
  have hgot : pending c2 = pending c1 := by
    show pending (csNoTs c2) = pending (csNoTs c1)
    rw [hcs]
  have hh2 : HeaderOK c2 e := by
    show HeaderOK (csNoTs c2) e
    rw [hcs]; exact hh
  rw [step_eq b hl2, hgot, ← h.1, if_pos ⟨hev, hh2, hd⟩]
  rcases hcase with ⟨hc, hctl, rfl, rfl⟩ | ⟨hc, rfl, rfl⟩
  · rw [if_pos hc, if_pos hctl]
    exact ⟨_, _, rfl, sameButTs_set h e.cid (c1 := csDone a c1 e) (c2 := csDone b c2 e) rfl _, rfl⟩
  · rw [if_neg hc]
    exact ⟨_, _, rfl, sameButTs_set h e.cid (c1 := csOpen a c1 e) (c2 := csOpen b c2 e)
      (by simp only [csOpen, csDone, csNoTs, hgot]) _, rfl⟩

theorem optList_map (f : α → β) (o : Option α) : optList (o.map f) = (optList o).map f := by cases o <;> rfl

theorem run_sim : ∀ (tr : List ChunkEv) (s1 s2 s1' : Sender) (ms1 : List Message), SameButTs s1 s2 →
    run false s1 tr = some (s1', ms1) →
    ∃ s2' ms2, run true s2 tr = some (s2', ms2) ∧ SameButTs s1' s2' ∧ ms1.map noTs = ms2.map noTs ∧
      endsAbs s2 tr = endsCompleteFrom s1 tr := by
  intro tr
  induction tr with
  | nil =>
    intro s1 s2 s1' ms1 h hr
    simp only [run, Option.some.injEq, Prod.mk.injEq] at hr
    obtain ⟨rfl, rfl⟩ := hr
    exact ⟨s2, [], rfl, h, rfl, rfl⟩
  | cons e tr ih =>
    intro s1 s2 s1' ms1 h hr
    obtain ⟨t1, o1, m1, hs, hr1, rfl⟩ := run_cons hr
    obtain ⟨t2, o2, hs2, hsame, ho⟩ := step_sim false true h hs
    obtain ⟨u2, m2, hr2, hsame2, hm, he⟩ := ih t1 t2 s1' m1 hsame hr1
    refine ⟨u2, optList o2 ++ m2, by simp only [run, hs2, hr2], hsame2, ?_, ?_⟩
    · rw [List.map_append, List.map_append, hm, ← optList_map, ← optList_map, ho]
    · have : o2.isSome = o1.isSome := by rw [← Option.isSome_map (f := noTs), ← ho, Option.isSome_map]
      simp only [endsAbs, endsCompleteFrom, hs, hs2, he, this]

/-- `UsesExtDelta` in terms of the chunk stream state the event continues. -/
def ExtDelta (c : CsState) (e : ChunkEv) : Prop :=
  16777215 ≤ e.tsField ∧ (e.fmt = 1 ∨ e.fmt = 2 ∨ (e.fmt = 3 ∧ c.busy = false))

theorem usesExtDelta_iff {s : Sender} {e : ChunkEv} {c : CsState} (hl : lookup s e = some c) :
    UsesExtDelta s e ↔ ExtDelta c e := by
  have : s.busy e.cid = c.busy := by
    unfold Sender.busy
    rcases lookup_eq_some.mp hl with h | ⟨h, _, rfl⟩ <;> rw [h]
  rw [UsesExtDelta, this]; rfl

theorem newTs_noExt {c : CsState} {e : ChunkEv} (hno : ¬ ExtDelta c e) (hf : e.fmt ≤ 3) :
    newTs true c e = newTs false c e := by
  by_cases hx : 16777215 ≤ e.tsField
  · cases hb : c.busy with
    | true => simp [newTs, hb]
    | false =>
      by_cases h0 : e.fmt = 0
      · simp [newTs, hb, h0]
      · have : e.fmt = 1 ∨ e.fmt = 2 ∨ e.fmt = 3 := by omega
        exact absurd ⟨hx, this.imp_right (Or.imp_right fun h => ⟨h, hb⟩)⟩ hno
  · simp [newTs, hx]

theorem step_noExt (s : Sender) (e : ChunkEv) (hno : ¬ UsesExtDelta s e) : step true s e = step false s e := by
  by_cases hev : EvOK e
  · cases hl : lookup s e with
    | none => simp [step, hev, hl]
    | some c =>
      have hts : newTs true c e = newTs false c e := newTs_noExt (mt (usesExtDelta_iff hl).mpr hno) hev.2.1
      simp only [step, hev, hl, hts]
  · simp [step, hev]

theorem run_noExt : ∀ (tr : List ChunkEv) (s : Sender), noExtDeltaFrom s tr = true → run true s tr = run false s tr := by
  intro tr
  induction tr with
  | nil => intro s _; rfl
  | cons e tr ih =>
    intro s h
    simp only [noExtDeltaFrom, Bool.and_eq_true, Bool.not_eq_true', decide_eq_false_iff_not] at h
    simp only [run, step_noExt s e h.1]
    cases hs : step false s e with
    | none => rfl
    | some r =>
      obtain ⟨s1, o⟩ := r
      rw [hs] at h
      simp only [ih s1 h.2]

theorem decode_noExt (tr : List ChunkEv) (s s' : Sender) (st : Reader) (ms : List Message) (rest : Bytes)
    (hrel : Rel s st) (hrun : run false s tr = some (s', ms)) (hn : noExtDeltaFrom s tr = true) :
    ∃ rms st', readChunks tr.length st (specBytes tr ++ rest) = ok ((rms, st'), rest) ∧
      rms.map toSpec = ms ∧ Rel s' st' ∧
      (endsCompleteFrom s tr = true → readMessages ms.length st (specBytes tr ++ rest) = ok ((rms, st'), rest)) := by
  -- the last chunk completes a message under both readings or under neither
  obtain ⟨_, _, _, _, _, he⟩ := run_sim tr s s s' ms (sameButTs_refl s) hrun
  rw [← run_noExt tr s hn] at hrun
  rw [← he]
  exact decode_from tr s s' st ms rest hrel hrun

end Oryx.Rtmp
