/-
  C01: what the library's writer puts on the wire is read back. The writer's chunks are chunk events of the
  specification (type 0 first, type 3 after, 1-byte basic header: `written_chunk`), so each is read by
  `readChunk_wire`; one induction along `writeChunks` (`written_loop`) gives a message, lists of messages follow.
  Beside it: the two header stages on a written chunk (`readHeader_written`), the writer on its own (`writeChunks_ok`,
  `writeAll_ok`, `writeAll_cons`, `writeMessage_head`), the handshake read back (`hsRead_hsWrite`), and an endpoint's
  schedule as its writes and its reads (`Endpoint.run_eq`).
-/
import Oryx.Proofs.Rtmp.Reader
namespace Oryx.Rtmp
open Oryx Oryx.Res Oryx.Spec.RtmpChunk

/-- What the reader hands back for a message the writer sent: same type, stream id, timestamp,
payload and chunk stream; `len` and `tsDelta` are the reader's bookkeeping. -/
def received (m : Msg) : Msg :=
  { hdr := { tsDelta := if m.hdr.ts < Gen.Rtmp.extendedTimestamp then m.hdr.ts else 16777215,
             len := m.payload.length, ty := m.hdr.ty, sid := m.hdr.sid, cid := m.hdr.cid, ts := m.hdr.ts },
    payload := m.payload }

def Msg.view (m : Msg) : Nat × Nat × Nat × Nat × Bytes := (m.hdr.cid, m.hdr.ty, m.hdr.sid, m.hdr.ts, m.payload)

theorem view_received (m : Msg) : (received m).view = m.view := rfl

structure Msg.WF (m : Msg) : Prop where
  cid_lo : 2 ≤ m.hdr.cid
  cid_hi : m.hdr.cid < 64
  ts : m.hdr.ts < 2147483648
  len_pos : 1 ≤ m.payload.length
  len_lt : m.payload.length < 16777216
  ty : m.hdr.ty < 256
  sid : m.hdr.sid < 4294967296
  ctl : m.CtlOK

theorem onMessageArrived_received (c : Nat) (m : Msg) (h : m.CtlOK) :
    onMessageArrived c (received m) = ok (outChunkAfter c m) := by
  rw [onMessageArrived_eq c (received m) h, outChunkAfter]
  by_cases t1 : m.hdr.ty = 1
  · rw [if_pos (show (received m).hdr.ty = 1 from t1), if_pos ⟨t1, h.1 t1⟩]; rfl
  · rw [if_neg (show ¬ (received m).hdr.ty = 1 from t1), if_neg (fun h => t1 h.1)]

theorem extTsBytes_length (ts : Nat) :
    (extTsBytes ts).length = if ts < Gen.Rtmp.extendedTimestamp then 0 else 4 := by
  unfold extTsBytes; split <;> simp

theorem c0Header_eq (m : Msg) :
    c0Header m = UInt8.ofNat (m.hdr.cid % 64) ::
      (be 3 (tsWire m.hdr.ts) ++ be 3 m.payload.length ++ [UInt8.ofNat m.hdr.ty] ++ le 4 m.hdr.sid ++ extTsBytes m.hdr.ts) := by
  have : (if m.hdr.ts < Gen.Rtmp.extendedTimestamp then be 3 m.hdr.ts else [0xff, 0xff, 0xff]) = be 3 (tsWire m.hdr.ts) := by
    by_cases h : m.hdr.ts < 16777215 <;> simp [tsWire, extendedTimestamp_eq, h] <;> rfl
  simp [c0Header, this]

/-- Reading the optional extended timestamp the writer appended. -/
theorem readExt (ts : Nat) (hts : ts < 2147483648) (h : Header) (rest : Bytes) :
    ((if decide (ts ≥ Gen.Rtmp.extendedTimestamp) then do
        let (e, bs) ← readFull 4 (extTsBytes ts ++ rest)
        pure ({ h with ts := ofBE e % 2147483648 }, bs)
      else pure (h, extTsBytes ts ++ rest) : Res (Header × Bytes)))
    = ok ((if ts ≥ Gen.Rtmp.extendedTimestamp then { h with ts := ts } else h), rest) := by
  by_cases hx : ts ≥ Gen.Rtmp.extendedTimestamp
  · have hnl : ¬ ts < Gen.Rtmp.extendedTimestamp := Nat.not_lt.mpr hx
    have e : readFull 4 (extTsBytes ts ++ rest) = ok (be 4 ts, rest) := by
      simp only [extTsBytes, hnl, if_false]
      exact readFull_append _ _ (be_length 4 ts)
    have h4 : ofBE (be 4 ts) = ts := ofBE_be_of_lt (by omega)
    simp [hx, e, h4, Nat.mod_eq_of_lt hts]
  · have hl : ts < Gen.Rtmp.extendedTimestamp := Nat.lt_of_not_ge hx
    simp [hx, extTsBytes, hl]

/-- The chunk event the writer emits for `m`: all header fields of `m` in every chunk, 1-byte basic header. -/
def Msg.ev (m : Msg) (fmt : Nat) (data : Bytes) : ChunkEv :=
  { cid := m.hdr.cid, bhForm := 1, fmt := fmt, tsField := m.hdr.ts, len := m.payload.length, ty := m.hdr.ty,
    sid := m.hdr.sid, data := data }

theorem extTsBytes_eq (m : Msg) (fmt : Nat) (d : Bytes) : extTsBytes m.hdr.ts = extendedTimestamp (m.ev fmt d) := by
  by_cases h : m.hdr.ts < 16777215 <;>
    simp [extTsBytes, extendedTimestamp, Msg.ev, extendedTimestamp_eq, h, Nat.not_le.mpr, Nat.le_of_not_lt]

theorem written_chunk (m : Msg) (hm : m.WF) (first : Bool) (d : Bytes) :
    (if first then c0Header m else c3Header m) ++ d = chunkBytes (m.ev (if first then 0 else 3) d) := by
  have hc : m.hdr.cid % 64 = m.hdr.cid := Nat.mod_eq_of_lt hm.cid_hi
  cases first
  · simp only [Bool.false_eq_true, if_false, c3Header, chunkBytes, extTsBytes_eq m 3 d, hc]
    simp [Msg.ev, basicHeader, messageHeader, Nat.add_comm]
  · simp only [if_true, c0Header_eq, chunkBytes, extTsBytes_eq m 0 d, hc]
    simp [Msg.ev, basicHeader, messageHeader]

/-- The header the reader holds after the first (type-0) chunk header of `m`. -/
def hdrOf (m : Msg) : Header := (received m).hdr

theorem hdrOf_cid (m : Msg) : (hdrOf m).cid = m.hdr.cid := rfl

/-- Where the writer's next chunk of `m` finds chunk stream `m.hdr.cid`: before the first chunk without a partial
message, afterwards holding the first `pre` bytes of `m` under the header of `m`. -/
def Awaits (ch : ChunkStream) (m : Msg) (first : Bool) (pre : Bytes) : Prop :=
  ch.hdr.cid = m.hdr.cid ∧
  if first then ch.msg = none ∧ pre = []
  else ch.msg = some { hdr := hdrOf m, payload := pre } ∧ ch.hdr = hdrOf m ∧
    ch.extTs = decide (16777215 ≤ m.hdr.ts) ∧ ch.count ≠ 0

theorem Awaits.got_eq {ch : ChunkStream} {m : Msg} {first : Bool} {pre : Bytes} (ha : Awaits ch m first pre) :
    ch.got = pre := by
  obtain ⟨_, h⟩ := ha
  cases first
  · exact ChunkStream.got_of_msg_some h.1
  · exact (ChunkStream.got_of_msg_none h.1).trans h.2.symm

theorem Awaits.next (ch : ChunkStream) (m : Msg) (pre : Bytes) :
    Awaits { ch with hdr := hdrOf m, msg := some { hdr := hdrOf m, payload := pre }, count := ch.count + 1,
                     extTs := decide (16777215 ≤ m.hdr.ts) } m false pre :=
  ⟨rfl, rfl, rfl, rfl, Nat.succ_ne_zero _⟩

theorem wireHdr_written {ch : ChunkStream} {m : Msg} {first : Bool} {pre : Bytes} (hm : m.WF)
    (ha : Awaits ch m first pre) (d : Bytes) : wireHdr ch (m.ev (if first then 0 else 3) d) = hdrOf m := by
  have hts := Nat.mod_eq_of_lt hm.ts
  obtain ⟨hcid, ha⟩ := ha
  cases first
  · obtain ⟨hmsg, hh, -⟩ := ha
    have hw : wireTs ch (m.ev 3 d) = m.hdr.ts := by
      by_cases hx : 16777215 ≤ m.hdr.ts
      · exact wireTs_abs (.inl hx)
      · rw [wireTs_type3 hx rfl, hmsg, hh]; rfl
    rw [if_neg Bool.false_ne_true, wireHdr_type3 rfl, hw, hts, hh]; rfl
  · have hw : wireTs ch (m.ev 0 d) = m.hdr.ts := wireTs_abs (.inr rfl)
    simp only [if_true, wireHdr, hw, hts, hcid]; rfl

theorem Awaits.admits {ch : ChunkStream} {m : Msg} {first : Bool} {pre : Bytes} (hm : m.WF) (ha : Awaits ch m first pre)
    (d : Bytes) : Admits ch (m.ev (if first then 0 else 3) d) := by
  obtain ⟨_, ha⟩ := ha
  have hform : FormLegal m.hdr.cid 1 := .inl ⟨rfl, hm.cid_lo, Nat.le_of_lt_succ hm.cid_hi⟩
  have hts : m.hdr.ts < 4294967296 := Nat.lt_trans hm.ts (by decide)
  cases first
  · obtain ⟨_, hh, hext, hcount⟩ := ha
    exact { form := hform, fmt := Nat.le_refl 3, ts := hts, len := hm.len_lt, ty := hm.ty, sid := hm.sid,
            started := .inl hcount, inside := fun _ => Nat.succ_ne_zero 2,
            sameLen := fun _ => by rw [hh]; rfl, ext3 := fun _ => hext }
  · have hno : ¬ ch.msg.isSome = true := by rw [ha.1]; exact Bool.false_ne_true
    exact { form := hform, fmt := Nat.zero_le 3, ts := hts, len := hm.len_lt, ty := hm.ty, sid := hm.sid,
            started := .inr (.inl rfl), inside := fun h => absurd h hno,
            sameLen := fun h => h.elim (fun h => absurd h hno) fun h => absurd (Nat.zero_le 1) h,
            ext3 := fun h => nomatch h }

theorem readChunk_written (c : Nat) (m : Msg) (hm : m.WF) (st : Reader) (hic : st.inChunk = c) (first : Bool)
    (pre suf : Bytes) (hsplit : pre ++ suf = m.payload) {ch : ChunkStream} (hch : st.chunks.getOrNew m.hdr.cid = ch)
    (ha : Awaits ch m first pre) (tail : Bytes) :
    readChunk st (chunkBytes (m.ev (if first then 0 else 3) (suf.take c)) ++ tail) =
      if suf.length ≤ c
      then ok (({ inChunk := outChunkAfter c m, chunks := st.chunks.set m.hdr.cid { ch with
                  hdr := hdrOf m, msg := none, count := ch.count + 1, extTs := decide (16777215 ≤ m.hdr.ts) } },
                some (received m)), tail)
      else ok (({ inChunk := c, chunks := st.chunks.set m.hdr.cid { ch with
                  hdr := hdrOf m, msg := some { hdr := hdrOf m, payload := pre ++ suf.take c },
                  count := ch.count + 1, extTs := decide (16777215 ≤ m.hdr.ts) } }, none), tail) := by
  have hgot := ha.got_eq
  have hlen : m.payload.length = pre.length + suf.length := by rw [← hsplit, List.length_append]
  have hsub : m.payload.length - pre.length = suf.length := by rw [hlen, Nat.add_sub_cancel_left]
  rw [readChunk_wire st _ tail hch (ha.admits hm _)
    (by rw [hgot]; show pre.length ≤ m.payload.length; rw [hlen]; exact Nat.le_add_right _ _)
    (by rw [hgot, hic]
        show (suf.take c).length = min (m.payload.length - pre.length) c
        rw [hsub, List.length_take, Nat.min_comm]), wireHdr_written hm ha, hgot]
  simp only [Msg.ev, List.length_take]
  by_cases hle : suf.length ≤ c
  · have e3 : ({ hdr := hdrOf m, payload := pre ++ suf.take c } : Msg) = received m := by
      rw [List.take_of_length_le hle, hsplit]; rfl
    rw [if_pos (by rw [Nat.min_eq_right hle, hlen]), if_pos hle, e3, hic, onMessageArrived_received _ m hm.ctl]
    rfl
  · rw [if_neg (by rw [Nat.min_eq_left (Nat.le_of_not_le hle), hlen]; omega), if_neg hle, hic]; rfl

theorem readHeader_written {ch : ChunkStream} {m : Msg} {first : Bool} {pre : Bytes} (hm : m.WF)
    (ha : Awaits ch m first pre) (rest : Bytes) :
    readBasicHeader ((if first then c0Header m else c3Header m) ++ rest) =
      ok ((if first then 0 else 3, m.hdr.cid), (if first then c0Header m else c3Header m).tail ++ rest) ∧
    readMessageHeader ch (if first then 0 else 3) ((if first then c0Header m else c3Header m).tail ++ rest) =
      ok ({ ch with hdr := hdrOf m, msg := some { hdr := hdrOf m, payload := pre }, count := ch.count + 1,
                    extTs := decide (16777215 ≤ m.hdr.ts) }, rest) := by
  have hw := written_chunk m hm first []
  rw [List.append_nil] at hw
  have hadm := ha.admits hm []
  rw [hw]
  refine ⟨readBasicHeader_spec _ _ _ hadm.fmt hadm.form _, ?_⟩
  have := readMessageHeader_wire ch _ rest hadm
  rw [wireHdr_written hm ha, ha.got_eq] at this
  have ht : ∀ e : ChunkEv, e.bhForm = 1 → e.data = [] →
      (chunkBytes e).tail ++ rest = messageHeader e ++ (extendedTimestamp e ++ rest) := by
    intro e h1 h2; simp [chunkBytes, basicHeader, h1, h2]
  rw [ht _ rfl rfl]
  exact this

/-- No chunk stream other than `cid` holds a partial message, and each knows its id. -/
def CleanExcept (st : Reader) (cid : Nat) : Prop :=
  ∀ k, k ≠ cid → ∀ ch, st.chunks.get k = some ch → ch.msg = none ∧ ch.hdr.cid = k

/-- No chunk stream holds a partial message, and each knows its id. -/
def Clean (st : Reader) : Prop :=
  ∀ k ch, st.chunks.get k = some ch → ch.msg = none ∧ ch.hdr.cid = k

theorem clean_fresh (c : Nat) : Clean { inChunk := c } := fun _ _ hk => nomatch hk

theorem clean_set_done (st : Reader) (cid : Nat) (ch : ChunkStream) (ic : Nat)
    (h : CleanExcept st cid) (h1 : ch.msg = none) (h2 : ch.hdr.cid = cid) :
    Clean { inChunk := ic, chunks := st.chunks.set cid ch } := by
  intro k ch' hk
  by_cases hkc : k = cid
  · subst hkc
    simp only [Chunks.get_set_same, Option.some.injEq] at hk
    subst hk; exact ⟨h1, h2⟩
  · simp only [Chunks.get_set_other _ _ _ _ hkc] at hk
    exact h k hkc ch' hk

theorem cleanExcept_set (st : Reader) (cid : Nat) (ch : ChunkStream) (ic : Nat) (h : CleanExcept st cid) :
    CleanExcept { inChunk := ic, chunks := st.chunks.set cid ch } cid := by
  intro k hkc ch' hk
  simp only [Chunks.get_set_other _ _ _ _ hkc] at hk
  exact h k hkc ch' hk

theorem Clean.awaits {st : Reader} (h : Clean st) (m : Msg) : Awaits (st.chunks.getOrNew m.hdr.cid) m true [] := by
  cases hg : st.chunks.get m.hdr.cid with
  | none => rw [Chunks.getOrNew_of_get_none hg]; exact ⟨rfl, rfl, rfl⟩
  | some ch => rw [Chunks.getOrNew_of_get hg]; exact ⟨(h _ _ hg).2, (h _ _ hg).1, rfl⟩

theorem writeChunks_cons (c : Nat) (m : Msg) (fuel : Nat) (first : Bool) {p : Bytes} (hp : p ≠ []) :
    writeChunks c m (fuel + 1) first p = writeChunks c m fuel false (p.drop c) >>= fun W' =>
      ok ((if first then c0Header m else c3Header m) ++ p.take c ++ W') := by
  cases p with
  | nil => exact absurd rfl hp
  | cons x xs =>
    simp only [writeChunks, List.length_take, ← List.take_eq_take_min, ← List.drop_eq_drop_min]
    rfl

theorem writeChunks_ok (c : Nat) (hc : 1 ≤ c) (m : Msg) :
    ∀ (fuel : Nat) (first : Bool) (p : Bytes), p.length ≤ fuel → ∃ W, writeChunks c m fuel first p = ok W := by
  intro fuel
  induction fuel with
  | zero =>
    intro first p hp
    obtain rfl : p = [] := List.length_eq_zero_iff.mp (Nat.le_zero.mp hp)
    exact ⟨[], by simp [writeChunks]⟩
  | succ fuel ih =>
    intro first p hp
    by_cases hne : p = []
    · exact ⟨[], by simp [hne, writeChunks]⟩
    obtain ⟨W', hW'⟩ := ih false (p.drop c) (by rw [List.length_drop]; omega)
    exact ⟨_, by rw [writeChunks_cons c m fuel first hne, hW']; rfl⟩

theorem writeChunks_step (c : Nat) (m : Msg) (fuel : Nat) (first : Bool) (p W : Bytes) (hp : p ≠ [])
    (h : writeChunks c m fuel first p = ok W) :
    ∃ fuel' W', fuel = fuel' + 1 ∧ writeChunks c m fuel' false (p.drop c) = ok W' ∧
      W = (if first then c0Header m else c3Header m) ++ p.take c ++ W' := by
  cases fuel with
  | zero => cases p with
    | nil => exact absurd rfl hp
    | cons x xs => simp [writeChunks] at h
  | succ fuel =>
    rw [writeChunks_cons c m fuel first hp] at h
    obtain ⟨W', hw, h⟩ := Res.bind_eq_ok.mp h
    exact ⟨fuel, W', rfl, hw, (ok.inj h).symm⟩

theorem writeMessage_head {c : Nat} {m : Msg} {W : Bytes} (hm : m.WF) (h : writeMessage c m = .ok W) :
    ∃ T, W = UInt8.ofNat m.hdr.cid :: T ∧ 11 ≤ T.length := by
  obtain ⟨_, W', _, _, hW⟩ := writeChunks_step c m _ true m.payload W (List.length_pos_iff.mp hm.len_pos) h
  rw [if_pos rfl, c0Header_eq, Nat.mod_eq_of_lt hm.cid_hi] at hW
  refine ⟨_, by rw [hW]; simp only [List.cons_append]; rfl, ?_⟩
  simp only [List.length_append, be_length, le_length, List.length_cons, List.length_nil]
  omega

/-- A Set Chunk Size message announces a size ≥ 1 (size 0 makes both loops spin forever). -/
def Msg.ChunkSizeOK (m : Msg) : Prop := m.hdr.ty = 1 → 1 ≤ ofBE (m.payload.take 4)

theorem outChunkAfter_pos (c : Nat) (hc : 1 ≤ c) (m : Msg) (h : m.ChunkSizeOK) : 1 ≤ outChunkAfter c m := by
  unfold outChunkAfter
  split
  · rename_i h1; exact h h1.1
  · exact hc

theorem writeAll_ok (msgs : List Msg) (hall : ∀ m ∈ msgs, m.WF ∧ m.ChunkSizeOK) (c : Nat) (hc : 1 ≤ c) :
    ∃ W, writeAll c msgs = .ok W := by
  induction msgs generalizing c with
  | nil => exact ⟨[], rfl⟩
  | cons m ms ih =>
    obtain ⟨W1, h1⟩ : ∃ W, writeMessage c m = ok W := writeChunks_ok c hc m _ true _ (Nat.le_refl _)
    obtain ⟨W2, h2⟩ := ih (fun x hx => hall x (List.mem_cons_of_mem _ hx)) _
      (outChunkAfter_pos c hc m (hall m (List.mem_cons_self ..)).2)
    exact ⟨W1 ++ W2, by simp only [writeAll, h1, h2, Res.bind_ok, Res.pure_eq]⟩

theorem writeAll_cons {c : Nat} {m : Msg} {ms : List Msg} {W : Bytes} (h : writeAll c (m :: ms) = .ok W) :
    ∃ W1 W2, writeMessage c m = .ok W1 ∧ writeAll (outChunkAfter c m) ms = .ok W2 ∧ W1 ++ W2 = W := by
  obtain ⟨W1, hw1, h⟩ := Res.bind_eq_ok.mp h
  obtain ⟨W2, hw2, h⟩ := Res.bind_eq_ok.mp h
  exact ⟨W1, W2, hw1, hw2, Res.ok.inj h⟩

/-- The reader follows the writer's chunk loop, whatever part `suf` of the payload is still to be written. -/
theorem written_loop (c : Nat) (m : Msg) (hm : m.WF) :
    ∀ (fuel : Nat) (first : Bool) (suf pre : Bytes) (st : Reader) (W rest : Bytes),
      suf ≠ [] → pre ++ suf = m.payload → st.inChunk = c → Awaits (st.chunks.getOrNew m.hdr.cid) m first pre →
      CleanExcept st m.hdr.cid → writeChunks c m fuel first suf = ok W →
      ∃ st', readMessage st (W ++ rest) = ok ((received m, st'), rest) ∧ Clean st' ∧
        st'.inChunk = outChunkAfter c m := by
  intro fuel
  induction fuel with
  | zero =>
    intro first suf pre st W rest hne _ _ _ _ hw
    obtain ⟨_, _, h, _⟩ := writeChunks_step c m 0 first suf W hne hw
    cases h
  | succ fuel ih =>
    intro first suf pre st W rest hne hsplit hic ha hce hw
    obtain ⟨_, W', hf, hw', rfl⟩ := writeChunks_step c m _ first suf W hne hw
    cases hf
    have hrc := readChunk_written c m hm st hic first pre suf hsplit rfl ha (W' ++ rest)
    rw [List.append_assoc, written_chunk m hm]
    by_cases hle : suf.length ≤ c
    · rw [List.drop_of_length_le hle] at hw'
      simp only [writeChunks, ok.injEq] at hw'
      subst hw'
      rw [if_pos hle] at hrc
      exact ⟨_, readMessage_chunk_some hrc, clean_set_done st _ _ _ hce rfl (hdrOf_cid m), rfl⟩
    · rw [if_neg hle] at hrc
      refine (ih false (suf.drop c) (pre ++ suf.take c) _ W' rest (mt List.drop_eq_nil_iff.mp hle)
        (by rw [List.append_assoc, List.take_append_drop]; exact hsplit)
        rfl (by rw [Chunks.getOrNew_set]; exact Awaits.next ..) (cleanExcept_set st _ _ _ hce) hw').imp
        fun st' h => ⟨readMessage_chunk_none hrc h.1, h.2⟩

theorem readMessage_written (c : Nat) (m : Msg) (hm : m.WF) (st : Reader) (hic : st.inChunk = c)
    (hclean : Clean st) {W : Bytes} (hW : writeMessage c m = ok W) (rest : Bytes) :
    ∃ st', readMessage st (W ++ rest) = ok ((received m, st'), rest) ∧ Clean st' ∧ st'.inChunk = outChunkAfter c m :=
  written_loop c m hm _ true m.payload [] st W rest (List.length_pos_iff.mp hm.len_pos)
    rfl hic (hclean.awaits m) (fun k _ ch hk => hclean k ch hk) hW

theorem write_read_one (c : Nat) (hc : 1 ≤ c) (m : Msg) (hm : m.WF) (st : Reader) (hic : st.inChunk = c)
    (hclean : Clean st) (rest : Bytes) :
    ∃ W st', writeMessage c m = ok W ∧ readMessage st (W ++ rest) = ok ((received m, st'), rest) ∧
      Clean st' ∧ st'.inChunk = outChunkAfter c m := by
  obtain ⟨W, hW⟩ := writeChunks_ok c hc m m.payload.length true m.payload (Nat.le_refl _)
  obtain ⟨st', h⟩ := readMessage_written c m hm st hic hclean hW rest
  exact ⟨W, st', hW, h⟩

theorem readMessages_written (msgs : List Msg) (hall : ∀ m ∈ msgs, m.WF) (c : Nat) (st : Reader) (hic : st.inChunk = c)
    (hcl : Clean st) {W : Bytes} (hW : writeAll c msgs = ok W) (rest : Bytes) :
    ∃ st', readMessages msgs.length st (W ++ rest) = ok ((msgs.map received, st'), rest) ∧ Clean st' := by
  induction msgs generalizing c st W with
  | nil =>
    obtain rfl : [] = W := ok.inj hW
    exact ⟨st, rfl, hcl⟩
  | cons m ms ih =>
    obtain ⟨W1, W2, hw1, hw2, rfl⟩ := writeAll_cons hW
    obtain ⟨st1, hr1, hcl1, hic1⟩ :=
      readMessage_written c m (hall m (List.mem_cons_self ..)) st hic hcl hw1 (W2 ++ rest)
    obtain ⟨st2, hr2, hcl2⟩ := ih (fun x hx => hall x (List.mem_cons_of_mem _ hx)) _ st1 hic1 hcl1 hw2
    exact ⟨st2, by simp only [List.length_cons, readMessages, List.append_assoc, hr1, Res.bind_ok, hr2, Res.pure_eq,
      List.map_cons], hcl2⟩

theorem session (msgs : List Msg) (hall : ∀ m ∈ msgs, m.WF ∧ m.ChunkSizeOK) :
    ∀ (c : Nat) (st : Reader) (rest : Bytes), 1 ≤ c → st.inChunk = c → Clean st →
    ∃ W st', writeAll c msgs = ok W ∧
      readMessages msgs.length st (W ++ rest) = ok ((msgs.map received, st'), rest) ∧ Clean st' := by
  intro c st rest hc hic hcl
  obtain ⟨W, hW⟩ := writeAll_ok msgs hall c hc
  obtain ⟨st', h⟩ := readMessages_written msgs (fun m hm => (hall m hm).1) c st hic hcl hW rest
  exact ⟨W, st', hW, h⟩

theorem hsRead_hsWrite {α : Type} (c1tail peerC1 X : Bytes) (h1 : c1tail.length = 1528) (h2 : peerC1.length = 1536)
    (k : Bytes → Bytes → Bytes → Bytes → Res α) :
    (do let (c0, bs) ← hsReadC0 (hsWrite c1tail peerC1 ++ X)
        let (c1, bs) ← hsReadC1 bs
        let (c2, bs) ← hsReadC2 bs
        k c0 c1 c2 bs) = k [3] (List.replicate 8 0 ++ c1tail) peerC1 X := by
  have hl : (List.replicate 8 (0 : UInt8) ++ c1tail).length = 1536 := by simp [h1]
  simp only [hsWrite, hsReadC0, hsReadC1, hsReadC2, List.append_assoc]
  rw [copyN_append (n := 1) [3] _ rfl]
  simp only [Res.bind_ok]
  rw [← List.append_assoc (List.replicate 8 0) c1tail, copyN_append _ _ hl]
  simp only [Res.bind_ok]
  rw [copyN_append _ _ h2]
  rfl

theorem Endpoint.run_eq (acts : List EAct) (e : Endpoint) (inb W : Bytes) (ms : List Msg) (rd' : Reader) (rest : Bytes)
    (hw : writeAll e.out (writesOf acts) = ok W)
    (hr : readMessages (readsOf acts) e.rd inb = ok ((ms, rd'), rest)) :
    e.run inb acts = ok (({ rd := rd', out := outAfterAll e.out (writesOf acts) }, W), (ms, rest)) := by
  induction acts generalizing e inb W ms rest with
  | nil =>
    simp only [writesOf, readsOf, writeAll, readMessages, Res.ok.injEq, Prod.mk.injEq] at hw hr
    obtain ⟨⟨rfl, rfl⟩, rfl⟩ := hr
    subst hw
    rfl
  | cons a as ih =>
    cases a with
    | write m =>
      simp only [writesOf, readsOf] at hw hr
      obtain ⟨w1, w2, h1, h3, rfl⟩ := writeAll_cons hw
      have := ih { e with out := outChunkAfter e.out m } inb w2 ms rest h3 hr
      simp only [Endpoint.run, Endpoint.step, h1, Res.bind_ok, Res.pure_eq, this, outAfterAll, writesOf,
        Option.toList, List.nil_append]
    | read =>
      simp only [writesOf, readsOf, readMessages] at hw hr
      obtain ⟨⟨⟨m, st1⟩, bs1⟩, h1, h2⟩ := Res.bind_eq_ok.mp hr
      obtain ⟨⟨⟨ms', st2⟩, bs2⟩, h3, h4⟩ := Res.bind_eq_ok.mp h2
      simp only [Res.pure_eq, Res.ok.injEq, Prod.mk.injEq] at h4
      obtain ⟨⟨rfl, rfl⟩, rfl⟩ := h4
      have := ih { e with rd := st1 } bs1 W ms' bs2 hw h3
      simp only [Endpoint.run, Endpoint.step, h1, Res.bind_ok, Res.pure_eq, this, Option.toList,
        List.nil_append, List.singleton_append, writesOf]

end Oryx.Rtmp
