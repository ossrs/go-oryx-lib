/-
  The writer model `Oryx.WsWrite` against the spec `Oryx.Spec.Ws` (C13). What `flushFrame`, `WriteControl` and the
  server's fast path send is `sendFrame`: `Spec.Ws.serialise` of `outFrame` (`flushFrame_ok`, `writeControl_frame`);
  `writeMessageZ` and `writePrepared` have no lemma here (only Oracle.Ws runs them). An open data message keeps the
  invariant `InMsg` under every writer call; closing it leaves `Written` (`writer_message`, `writeMsg_wire`): frames of
  `MsgShape`, which obey the spec's sender rules and parse back (`Written.parse`). Also: masking is the spec's `xorMask`,
  and the `truncWriter` withholds exactly the last four bytes.
-/
import Oryx.Model.WsWrite
import Oryx.Model.WsRead
import Oryx.Proofs.WsSpec
namespace Oryx.WsWrite
open Oryx Oryx.Gen.Websocket Oryx.Spec.Ws

/-! ### masking

The writer's `maskBytes`, the reader's and the spec's `xorMask` are one function; its properties are proved for
`xorMask` (Proofs.WsSpec). -/

theorem maskBytes_eq_spec (key : Bytes) (pos : Nat) (bs : Bytes) :
    maskBytes key pos bs = Spec.Ws.xorMask key pos bs := by
  induction bs generalizing pos with
  | nil => rfl
  | cons b bs ih => simp [maskBytes, Spec.Ws.xorMask, ih]

theorem maskBytes_eq_read (key : Bytes) (pos : Nat) (bs : Bytes) :
    maskBytes key pos bs = WsRead.maskBytes key pos bs := by
  induction bs generalizing pos with
  | nil => rfl
  | cons b bs ih => simp [maskBytes, WsRead.maskBytes, ih]

theorem maskBytes_involution (key : Bytes) (pos : Nat) (bs : Bytes) :
    maskBytes key pos (maskBytes key pos bs) = bs := by
  rw [maskBytes_eq_spec, maskBytes_eq_spec, xorMask_involution]

theorem maskBytes_length (key : Bytes) (pos : Nat) (bs : Bytes) : (maskBytes key pos bs).length = bs.length := by
  rw [maskBytes_eq_spec, xorMask_length]

theorem maskBytes_append (key : Bytes) (pos : Nat) (a b : Bytes) :
    maskBytes key pos (a ++ b) = maskBytes key pos a ++ maskBytes key (pos + a.length) b := by
  simp only [maskBytes_eq_spec, xorMask_append]

/-! ### truncWriter -/

/-- With four bytes `H` held, `truncWrite` splits `H ++ P` before its last four bytes: all of `H` goes down when
`P` has four or more, otherwise as much of `H` as `P` is long (and none of `P`). -/
theorem trunc_split (H P : Bytes) (hH : H.length = 4) :
    H.take (min P.length 4) ++ P.take (P.length - min P.length 4) ++
        (H.drop (min P.length 4) ++ P.drop (P.length - min P.length 4)) = H ++ P ∧
      (H.drop (min P.length 4) ++ P.drop (P.length - min P.length 4)).length = 4 := by
  rcases Nat.le_total 4 P.length with h | h
  · rw [Nat.min_eq_right h, List.take_of_length_le (Nat.le_of_eq hH), List.drop_of_length_le (Nat.le_of_eq hH),
      List.nil_append, List.append_assoc, List.take_append_drop, List.length_drop, Nat.sub_sub_self h]
    exact ⟨rfl, rfl⟩
  · rw [Nat.min_eq_left h, Nat.sub_self, List.take_zero, List.drop_zero, List.append_nil, ← List.append_assoc,
      List.take_append_drop, List.length_append, List.length_drop, hH, Nat.sub_add_cancel h]
    exact ⟨rfl, rfl⟩

theorem truncWrite_spec (held p : Bytes) (h : held.length ≤ 4) :
    held ++ p = (truncWrite held p).2.flatten ++ (truncWrite held p).1 ∧
    (truncWrite held p).1.length = min 4 (held.length + p.length) := by
  unfold truncWrite
  by_cases hp : p.length ≤ 4 - held.length
  · have hle : held.length + p.length ≤ 4 := by omega
    simp only [Nat.min_eq_right hp, List.take_length, List.drop_length, List.isEmpty_nil, if_true, List.flatten_nil,
      List.nil_append, List.length_append, Nat.min_eq_right hle, and_self]
  · have hfill : min (4 - held.length) p.length = 4 - held.length := Nat.min_eq_left (by omega)
    have hne : (p.drop (4 - held.length)).isEmpty = false := by
      rw [List.isEmpty_eq_false_iff, ne_eq, List.drop_eq_nil_iff]; omega
    obtain ⟨e1, e2⟩ := trunc_split (held ++ p.take (4 - held.length)) (p.drop (4 - held.length))
      (by rw [List.length_append, List.length_take]; omega)
    simp only [hfill, hne, Bool.false_eq_true, if_false, List.flatten_cons, List.flatten_nil, List.append_nil]
    rw [e1, e2, List.append_assoc, List.take_append_drop, Nat.min_eq_left (by omega)]
    exact ⟨rfl, rfl⟩

theorem min_min_add (k x c : Nat) : min k (min k x + c) = min k (x + c) := by
  rcases Nat.le_total k x with h | h
  · rw [Nat.min_eq_left h, Nat.min_eq_left (Nat.le_add_right k c), Nat.min_eq_left (Nat.le_trans h (Nat.le_add_right x c))]
  · rw [Nat.min_eq_right h]

theorem truncRun_spec (parts : List Bytes) (held down : Bytes) (h : held.length ≤ 4) :
    (truncRun held down parts).2 ++ (truncRun held down parts).1 = down ++ held ++ parts.flatten ∧
    (truncRun held down parts).1.length = min 4 (held.length + parts.flatten.length) := by
  induction parts generalizing held down with
  | nil => exact ⟨by simp [truncRun], by simp [truncRun, Nat.min_eq_right h]⟩
  | cons p ps ih =>
    obtain ⟨e1, e2⟩ := truncWrite_spec held p h
    obtain ⟨i1, i2⟩ := ih (truncWrite held p).1 (down ++ (truncWrite held p).2.flatten) (e2 ▸ Nat.min_le_left ..)
    rw [truncRun, i1, i2, e2, min_min_add, List.append_assoc down, ← e1, List.flatten_cons, List.length_append,
      Nat.add_assoc]
    exact ⟨by simp only [List.append_assoc], rfl⟩

theorem truncRun_eq (parts : List Bytes) :
    truncRun [] [] parts =
      (parts.flatten.drop (parts.flatten.length - 4), parts.flatten.take (parts.flatten.length - 4)) := by
  obtain ⟨h1, h2⟩ := truncRun_spec parts [] [] (Nat.zero_le 4)
  simp only [List.append_nil, List.nil_append, List.length_nil, Nat.zero_add] at h1 h2
  have hlen : (truncRun [] [] parts).2.length = (parts.flatten.take (parts.flatten.length - 4)).length := by
    have := congrArg List.length h1
    simp only [List.length_append] at this
    rw [List.length_take]; omega
  have := List.append_inj (h1.trans (List.take_append_drop (parts.flatten.length - 4) parts.flatten).symm) hlen
  exact Prod.ext this.2 this.1

/-! ### message types: text and binary, the data types, lie below the control types -/

theorem dataType_le {ty : Nat} (h : ty = TextMessage ∨ ty = BinaryMessage) : ty ≤ 2 := by
  rcases h with h | h <;> simp [h, TextMessage, BinaryMessage]

theorem isData_ty {ty : Nat} (h : ty = TextMessage ∨ ty = BinaryMessage) : isData ty = true := by
  rcases h with h | h <;> simp [h, isData]

theorem isControl_of_le {ft : Nat} (h : ft ≤ 2) : isControl ft = false := by
  simp [isControl, CloseMessage, PingMessage, PongMessage]; omega

/-! ### one frame: what `flushFrame`, `WriteControl` and the fast path send is the spec's wire image of `outFrame` -/

def formOf (n : Nat) : Nat := if n ≥ 65536 then 2 else if n > 125 then 1 else 0

/-- The frame a flush is expected to put on the wire. -/
def outFrame (isServer : Bool) (key : Bytes) (ft : Nat) (final compress : Bool) (payload : Bytes) : Frame :=
  { fin := final, rsv1 := compress, rsv2 := false, rsv3 := false, opcode := ft, masked := !isServer,
    key := if isServer then [] else key, lenForm := formOf payload.length, len := payload.length,
    payload := payload }

theorem formOf_cases (n : Nat) :
    (formOf n = 0 ∧ n ≤ 125) ∨ (formOf n = 1 ∧ 125 < n ∧ n < 65536) ∨ (formOf n = 2 ∧ 65536 ≤ n) := by
  unfold formOf; split
  · exact Or.inr (Or.inr ⟨rfl, ‹_›⟩)
  · split
    · exact Or.inr (Or.inl ⟨rfl, ‹_›, by omega⟩)
    · exact Or.inl ⟨rfl, by omega⟩

/-- The bits `flushFrame` ORs into the two header bytes add up to the spec's `byte0` and `byte1`: two tables, over
opcode × FIN × RSV1 and over 7-bit length × mask bit. -/
theorem headerByte0_eq_byte0 (ft : Nat) (h : ft < 16) (fin c : Bool) :
    (UInt8.ofNat ft ||| (if fin then UInt8.ofNat finalBit else 0) ||| (if c then UInt8.ofNat rsv1Bit else 0)) =
      UInt8.ofNat (128 * b2n fin + 64 * b2n c + 32 * b2n false + 16 * b2n false + ft) := by
  have key : ∀ (i : Fin 16) (a b : Bool),
      (UInt8.ofNat i.val ||| (if a then UInt8.ofNat finalBit else 0) ||| (if b then UInt8.ofNat rsv1Bit else 0)) =
        UInt8.ofNat (128 * b2n a + 64 * b2n b + 32 * b2n false + 16 * b2n false + i.val) := by decide +kernel
  exact key ⟨ft, h⟩ fin c

theorem headerByte1_eq_byte1 (n : Nat) (h : n < 128) (m : Bool) :
    ((if m then UInt8.ofNat maskBit else 0) ||| UInt8.ofNat n) = UInt8.ofNat (128 * b2n m + n) := by
  have key : ∀ (i : Fin 128) (a : Bool),
      ((if a then UInt8.ofNat maskBit else 0) ||| UInt8.ofNat i.val) = UInt8.ofNat (128 * b2n a + i.val) := by
    decide +kernel
  exact key ⟨n, h⟩ m

theorem frameHeader_outFrame (isServer : Bool) (key : Bytes) (ft : Nat) (hft : ft < 16) (fin cz : Bool) (p : Bytes) :
    frameHeader (UInt8.ofNat ft ||| (if fin then UInt8.ofNat finalBit else 0) ||| (if cz then UInt8.ofNat rsv1Bit else 0))
        (if !isServer then UInt8.ofNat maskBit else 0) p.length =
      byte0 (outFrame isServer key ft fin cz p) :: byte1 (outFrame isServer key ft fin cz p) ::
        extLen (outFrame isServer key ft fin cz p) := by
  rw [headerByte0_eq_byte0 ft hft fin cz]
  simp only [frameHeader, byte0, byte1, len7, extLen, outFrame]
  rcases formOf_cases p.length with ⟨h, hn⟩ | ⟨h, hn, hn'⟩ | ⟨h, hn⟩
  · rw [h, if_neg (by omega), if_neg (by omega), headerByte1_eq_byte1 _ (by omega)]; rfl
  · rw [h, if_neg (by omega), if_pos hn, show (126 : UInt8) = UInt8.ofNat 126 from rfl,
      headerByte1_eq_byte1 126 (by omega)]
    rfl
  · rw [h, if_pos hn, show (127 : UInt8) = UInt8.ofNat 127 from rfl, headerByte1_eq_byte1 127 (by omega)]; rfl

theorem serialise_outFrame (isServer : Bool) (key : Bytes) (ft : Nat) (hft : ft < 16) (fin cz : Bool) (p : Bytes) :
    serialise (outFrame isServer key ft fin cz p) =
      frameHeader (UInt8.ofNat ft ||| (if fin then UInt8.ofNat finalBit else 0) ||| (if cz then UInt8.ofNat rsv1Bit else 0))
        (if !isServer then UInt8.ofNat maskBit else 0) p.length ++
      (if isServer then p else key ++ maskBytes key 0 p) := by
  rw [frameHeader_outFrame isServer key ft hft]
  cases isServer <;> simp [serialise, wirePayload, outFrame, maskBytes_eq_spec]

/-- The connection after a successful `Conn.write` of one frame. -/
def afterWrite (c : WConn) (ft : Nat) (bytes : Bytes) : WConn :=
  { c with sent := bytes :: c.sent, writeErr := if ft == CloseMessage then some .closeSent else none }

theorem connWrite_ok (c : WConn) (ft : Nat) (bs : Bytes) (h : c.writeErr = none) :
    connWrite c ft bs = (afterWrite c ft bs, none) := by
  unfold connWrite afterWrite
  rw [h]; simp only
  split <;> simp_all

theorem nextKey_snd (c : WConn) : (nextKey c).2 = { c with keys := c.keys.tail } := by
  obtain ⟨_, _, _, keys, _, _, _⟩ := c
  cases keys <;> rfl

theorem nextKey_length (c : WConn) (h : ∀ k ∈ c.keys, k.length = 4) : (nextKey c).1.length = 4 := by
  unfold nextKey; split
  · rfl
  · rename_i k ks hk; exact h k (by rw [hk]; simp)

theorem nextKey_keys (c : WConn) (h : ∀ k ∈ c.keys, k.length = 4) : ∀ k ∈ (nextKey c).2.keys, k.length = 4 := by
  rw [nextKey_snd]; exact fun k hk => h k (List.mem_of_mem_tail hk)

/-- One frame sent: the client draws its masking key, then `Conn.write` takes the wire image in a single buffer.
`flushFrame`, `WriteControl` and the fast path of `WriteMessage` all come down to this. -/
def sendFrame (c : WConn) (ft : Nat) (fin cz : Bool) (p : Bytes) : WConn :=
  afterWrite (if c.isServer then c else (nextKey c).2) ft (serialise (outFrame c.isServer (nextKey c).1 ft fin cz p))

@[simp] theorem sendFrame_fields (c : WConn) (ft : Nat) (fin cz : Bool) (p : Bytes) :
    (sendFrame c ft fin cz p).isServer = c.isServer ∧ (sendFrame c ft fin cz p).bufSize = c.bufSize ∧
    (sendFrame c ft fin cz p).deflate = c.deflate ∧ (sendFrame c ft fin cz p).writer = c.writer ∧
    (sendFrame c ft fin cz p).sent = serialise (outFrame c.isServer (nextKey c).1 ft fin cz p) :: c.sent ∧
    (sendFrame c ft fin cz p).writeErr = if ft == CloseMessage then some .closeSent else none := by
  unfold sendFrame; split <;> simp [afterWrite, nextKey_snd]

theorem sendFrame_keys (c : WConn) (ft : Nat) (fin cz : Bool) (p : Bytes) (h : ∀ k ∈ c.keys, k.length = 4) :
    ∀ k ∈ (sendFrame c ft fin cz p).keys, k.length = 4 := by
  unfold sendFrame; split
  · exact h
  · exact nextKey_keys c h

/-- A flush that passes the control-frame check and finds no latched error sends exactly the expected frame
(`extra` is never used in client mode); on the client the buffer is left masked by a final flush. -/
theorem flushFrame_ok (c : WConn) (w : MW) (final : Bool) (extra : Bytes)
    (he : c.writeErr = none) (hft : w.frameType < 16)
    (hctl : (isControl w.frameType && (!final || w.buf.length + extra.length > maxControlFramePayloadSize)) = false)
    (hx : c.isServer = false → extra = []) :
    flushFrame c w final extra =
      (let c' := sendFrame c w.frameType final w.compress (w.buf ++ extra)
       if final then { c' with writer := none } else c',
       if final then { w with compress := false, buf := if c.isServer then w.buf else maskBytes (nextKey c).1 0 w.buf }
       else { w with compress := false, buf := [], frameType := continuationFrame },
       none) := by
  unfold sendFrame
  rw [serialise_outFrame _ _ _ hft]
  unfold flushFrame
  have hk : (nextKey c).2.writeErr = none := by rw [nextKey_snd]; exact he
  cases hs : c.isServer
  · cases hx hs
    simp only [List.length_nil, Nat.add_zero] at hctl
    simp only [hctl, List.length_nil, Nat.add_zero, List.append_nil, Nat.lt_irrefl, Bool.false_eq_true, if_false,
      connWrite_ok _ _ _ hk, List.append_assoc, Bool.not_false, if_true]
    cases final <;> simp
  · simp only [hctl, Bool.false_eq_true, if_false, if_true, connWrite_ok _ _ _ he, List.append_assoc, Bool.not_true]
    cases final <;> simp

theorem writeControl_frame (c : WConn) (ty : Nat) (data : Bytes)
    (hty : isControl ty = true) (hlen : data.length ≤ 125) (he : c.writeErr = none) :
    writeControl c ty data = (sendFrame c ty true false data, none) := by
  have hft : ty < 16 := by
    simp only [isControl, CloseMessage, PingMessage, PongMessage, Bool.or_eq_true, beq_iff_eq] at hty; omega
  have h1 : ¬ 65536 ≤ data.length := by omega
  have h2 : ¬ 125 < data.length := by omega
  unfold sendFrame
  rw [serialise_outFrame _ _ _ hft]
  unfold writeControl frameHeader
  rw [if_neg (by simp [hty]), if_neg (by simp [maxControlFramePayloadSize]; omega)]
  have hk : (nextKey c).2.writeErr = none := by rw [nextKey_snd]; exact he
  cases hs : c.isServer
  · simp [connWrite_ok _ _ _ hk, UInt8.or_comm, h1, h2]
  · simp [connWrite_ok _ _ _ he, h1, h2]

theorem writeControl_too_long (c : WConn) (ty : Nat) (data : Bytes) (hlen : 125 < data.length) :
    (writeControl c ty data).1 = c ∧ (writeControl c ty data).2 ≠ none := by
  unfold writeControl
  split
  · simp
  · have : data.length > maxControlFramePayloadSize := by simp [maxControlFramePayloadSize]; omega
    simp [this]

theorem writeControl_after_close (c : WConn) (ty : Nat) (data : Bytes) (e : WErr) (he : c.writeErr = some e)
    (hty : isControl ty = true) (hlen : data.length ≤ 125) :
    (writeControl c ty data).1.sent = c.sent ∧ (writeControl c ty data).2 = some e := by
  have hnot : ¬ data.length > maxControlFramePayloadSize := by simp [maxControlFramePayloadSize]; omega
  unfold writeControl
  simp only [hty, Bool.not_true, Bool.false_eq_true, if_false, hnot]
  cases c.isServer <;> simp [connWrite, he, nextKey_snd]

theorem prepWrite_data (c : WConn) (ty : Nat) (hw : c.writer = none) (hE : c.writeErr = none)
    (hty : ty = TextMessage ∨ ty = BinaryMessage) : prepWrite c ty = (c, none) := by
  simp [prepWrite, hw, isControl_of_le (dataType_le hty), isData_ty hty, hE]

theorem nextWriter_data (c : WConn) (ty : Nat) (hw : c.writer = none) (hE : c.writeErr = none)
    (hty : ty = TextMessage ∨ ty = BinaryMessage) :
    nextWriter c ty =
      ({ c with writer := some { compress := c.deflate, buf := [], frameType := ty } },
       .ok { compress := c.deflate, buf := [], frameType := ty }) := by
  simp [nextWriter, prepWrite_data c ty hw hE hty, isData_ty hty]

theorem writeMessage_fastpath (c : WConn) (ty : Nat) (data : Bytes) (hs : c.isServer = true) (hd : c.deflate = false)
    (hw : c.writer = none) (hE : c.writeErr = none) (hty : ty = TextMessage ∨ ty = BinaryMessage) :
    (writeMessage c ty data).2 = none ∧
    (writeMessage c ty data).1.sent = serialise (outFrame true [] ty true false data) :: c.sent := by
  have hle := dataType_le hty
  have hfl := flushFrame_ok c { compress := false, buf := data.take c.bufSize, frameType := ty } true
    (data.drop c.bufSize) hE (by show ty < 16; omega) (by simp [isControl_of_le hle]) (fun h => by simp [hs] at h)
  simp only [writeMessage, hs, hd, Bool.not_false, Bool.and_self, if_true, prepWrite_data c ty hw hE hty, hfl]
  simp [hs, outFrame, List.take_append_drop]

/-! ### the message writer: frames emitted for one data message -/

/-- `f` is a frame the writer of role `isServer` emits with these header bits (some key, some payload). -/
def IsOut (isServer : Bool) (op : Nat) (r1 fin : Bool) (f : Frame) : Prop :=
  ∃ key payload, f = outFrame isServer key op fin r1 payload ∧ (isServer = false → key.length = 4)

section
variable {isServer : Bool} {op : Nat} {r1 last : Bool} {f : Frame}
theorem IsOut.opcode (h : IsOut isServer op r1 last f) : f.opcode = op := by obtain ⟨_, _, rfl, _⟩ := h; rfl
theorem IsOut.fin (h : IsOut isServer op r1 last f) : f.fin = last := by obtain ⟨_, _, rfl, _⟩ := h; rfl
theorem IsOut.rsv1 (h : IsOut isServer op r1 last f) : f.rsv1 = r1 := by obtain ⟨_, _, rfl, _⟩ := h; rfl
theorem IsOut.len (h : IsOut isServer op r1 last f) : f.len = f.payload.length := by obtain ⟨_, _, rfl, _⟩ := h; rfl
end

/-- State of a data message in progress: `emitted` = the non-final frames written so far, `written` =
everything the application has handed over so far. -/
structure InMsg (c0 : WConn) (ty : Nat) (cz : Bool) (c : WConn) (w : MW) (emitted : List Frame) (written : Bytes) : Prop where
  srv : c.isServer = c0.isServer
  bpos : 1 ≤ c.bufSize
  noErr : c.writeErr = none
  wErr : w.err = none
  sent : c.sent = (emitted.map serialise).reverse ++ c0.sent
  ft : w.frameType = if emitted.isEmpty then ty else continuationFrame
  cmp : w.compress = (emitted.isEmpty && cz)
  pay : (emitted.map (·.payload)).flatten ++ w.buf = written
  blen : w.buf.length ≤ c.bufSize
  keys : ∀ k ∈ c.keys, k.length = 4
  shape : ∀ (i : Nat) (f : Frame), emitted[i]? = some f →
    IsOut c0.isServer (if i = 0 then ty else continuationFrame) (i == 0 && cz) false f
  tyData : ty = TextMessage ∨ ty = BinaryMessage
  dfl : c.deflate = c0.deflate

section
variable {c0 c : WConn} {ty : Nat} {cz : Bool} {w : MW} {emitted : List Frame} {written : Bytes}

theorem InMsg.ft_le (inv : InMsg c0 ty cz c w emitted written) : w.frameType ≤ 2 := by
  rw [inv.ft]; split
  · exact dataType_le inv.tyData
  · exact Nat.zero_le 2

theorem InMsg.isOut_next (inv : InMsg c0 ty cz c w emitted written) (fin : Bool) (p : Bytes) :
    IsOut c0.isServer (if emitted.length = 0 then ty else continuationFrame) (emitted.length == 0 && cz) fin
      (outFrame c.isServer (nextKey c).1 w.frameType fin w.compress p) := by
  refine ⟨(nextKey c).1, p, ?_, fun _ => nextKey_length c inv.keys⟩
  rw [inv.srv, inv.ft, inv.cmp]; cases emitted <;> simp

theorem InMsg.notClose (inv : InMsg c0 ty cz c w emitted written) : (w.frameType == CloseMessage) = false := by
  have := inv.ft_le; simp [CloseMessage]; omega

theorem InMsg.flush (inv : InMsg c0 ty cz c w emitted written) (extra : Bytes) (hx : c.isServer = false → extra = []) :
    ∃ c' w' f, WsWrite.flushFrame c w false extra = (c', w', none) ∧
      InMsg c0 ty cz c' w' (emitted ++ [f]) (written ++ extra) ∧ w'.buf.length < c'.bufSize := by
  have hfl := flushFrame_ok c w false extra inv.noErr (by have := inv.ft_le; omega)
    (by simp [isControl_of_le inv.ft_le]) hx
  simp only [Bool.false_eq_true, if_false] at hfl
  refine ⟨_, _, outFrame c.isServer (nextKey c).1 w.frameType false w.compress (w.buf ++ extra), hfl, ?_,
    by simp; exact inv.bpos⟩
  exact {
    srv := by simp [inv.srv], bpos := by simp [inv.bpos], noErr := by simp [inv.notClose]
    wErr := inv.wErr, sent := by simp [inv.sent], ft := by simp, cmp := by simp
    pay := by simp [← inv.pay, outFrame], blen := by simp
    keys := sendFrame_keys _ _ _ _ _ inv.keys
    shape := forall_getElem?_snoc inv.shape (by simpa using inv.isOut_next false (w.buf ++ extra))
    tyData := inv.tyData, dfl := by simp [inv.dfl] }

theorem InMsg.take (inv : InMsg c0 ty cz c w emitted written) (p : Bytes) (n : Nat) (hn : w.buf.length + n ≤ c.bufSize) :
    InMsg c0 ty cz c { w with buf := w.buf ++ p.take n } emitted (written ++ p.take n) :=
  { inv with
    pay := by show _ ++ (w.buf ++ _) = _; rw [← List.append_assoc, inv.pay]
    blen := by show (w.buf ++ _).length ≤ _; simp only [List.length_append, List.length_take]; omega }

/-- The invariant does not read `c.writer`, the only thing `sync` touches. -/
theorem sync_inv {r : WConn × MW × Option WErr}
    (h : ∃ c' w' emitted', r = (c', w', none) ∧ InMsg c0 ty cz c' w' emitted' written) :
    ∃ c' w' emitted', sync r = (c', w', none) ∧ InMsg c0 ty cz c' w' emitted' written := by
  obtain ⟨c1, w1, em1, rfl, inv1⟩ := h
  exact ⟨_, _, em1, rfl, { inv1 with }⟩

theorem copyLoop_inv (fuel : Nat) :
    ∀ (c : WConn) (w : MW) (emitted : List Frame) (written p : Bytes),
      InMsg c0 ty cz c w emitted written → p.length < fuel →
      ∃ c' w' emitted', copyLoop fuel c w p = (c', w', none) ∧ InMsg c0 ty cz c' w' emitted' (written ++ p) := by
  induction fuel with
  | zero => intro _ _ _ _ p _ h; exact absurd h (Nat.not_lt_zero _)
  | succ n ih =>
    intro c w emitted written p inv hfuel
    cases p with
    | nil => exact ⟨c, w, emitted, by simp [copyLoop], by simpa using inv⟩
    | cons a p' =>
      -- with room in the buffer: copy what fits and go on
      have hroom : ∀ c1 w1 em1, InMsg c0 ty cz c1 w1 em1 written → w1.buf.length < c1.bufSize →
          ∃ c' w' emitted', copyLoop (n + 1) c1 w1 (a :: p') = (c', w', none) ∧
            InMsg c0 ty cz c' w' emitted' (written ++ a :: p') := by
        intro c1 w1 em1 inv1 hfree
        have := ih c1 _ em1 _ ((a :: p').drop (c1.bufSize - w1.buf.length))
          (inv1.take (a :: p') (c1.bufSize - w1.buf.length) (by omega))
          (by simp only [List.length_drop, List.length_cons] at hfuel ⊢; omega)
        rw [List.append_assoc, List.take_append_drop] at this
        simpa only [copyLoop, Nat.not_le.mpr hfree, if_false] using this
      by_cases hfull : c.bufSize ≤ w.buf.length
      · -- a full buffer is flushed first, and the round goes on as one from the flushed state, which has room
        obtain ⟨c1, w1, f, h1, inv1, hfree⟩ := inv.flush [] (fun _ => rfl)
        have : copyLoop (n + 1) c w (a :: p') = copyLoop (n + 1) c1 w1 (a :: p') := by
          simp only [copyLoop, hfull, if_true, h1, Nat.not_le.mpr hfree, if_false]
        rw [this]; exact hroom c1 w1 _ (by simpa using inv1) hfree
      · exact hroom c w _ inv (by omega)

theorem readFromLoop_inv (fuel : Nat) :
    ∀ (c : WConn) (w : MW) (emitted : List Frame) (written : Bytes) (chunks : List Nat) (data : Bytes),
      InMsg c0 ty cz c w emitted written → data.length + 1 < fuel →
      ∃ c' w' emitted', readFromLoop fuel c w chunks data = (c', w', none) ∧
        InMsg c0 ty cz c' w' emitted' (written ++ data) := by
  induction fuel with
  | zero => intro _ _ _ _ _ _ _ h; exact absurd h (Nat.not_lt_zero _)
  | succ n ih =>
    intro c w emitted written chunks data inv hfuel
    -- with room in the buffer: stop at the end of the data, else copy `1 ≤ k ≤ free` bytes and go on
    have hroom : ∀ c1 w1 em1, InMsg c0 ty cz c1 w1 em1 written → w1.buf.length < c1.bufSize →
        ∃ c' w' emitted', readFromLoop (n + 1) c1 w1 chunks data = (c', w', none) ∧
          InMsg c0 ty cz c' w' emitted' (written ++ data) := by
      intro c1 w1 em1 inv1 hfree
      have hnf : (w1.buf.length == c1.bufSize) = false := by simp; omega
      simp only [readFromLoop, hnf, Bool.false_eq_true, if_false]
      cases data with
      | nil => exact ⟨c1, w1, em1, rfl, by simpa using inv1⟩
      | cons a d' =>
        have hstep : ∀ k, 1 ≤ k → k ≤ c1.bufSize - w1.buf.length → ∃ c' w' emitted',
            readFromLoop n c1 { w1 with buf := w1.buf ++ (a :: d').take k } chunks.tail ((a :: d').drop k) =
              (c', w', none) ∧ InMsg c0 ty cz c' w' emitted' (written ++ a :: d') := by
          intro k _ _
          have := ih c1 _ em1 _ chunks.tail ((a :: d').drop k) (inv1.take (a :: d') k (by omega))
            (by simp only [List.length_drop, List.length_cons] at hfuel ⊢; omega)
          rwa [List.append_assoc, List.take_append_drop] at this
        cases chunks with
        | nil => exact hstep (c1.bufSize - w1.buf.length) (by omega) (Nat.le_refl _)
        | cons k ks => exact hstep (min (max k 1) (c1.bufSize - w1.buf.length)) (by omega) (Nat.min_le_right _ _)
    by_cases hfull : (w.buf.length == c.bufSize) = true
    · -- a full buffer is flushed first, and the round goes on as one from the flushed state, which has room
      obtain ⟨c1, w1, f, h1, inv1, hfree⟩ := inv.flush [] (fun _ => rfl)
      have hnf : (w1.buf.length == c1.bufSize) = false := by simp; omega
      have : readFromLoop (n + 1) c w chunks data = readFromLoop (n + 1) c1 w1 chunks data := by
        simp only [readFromLoop, hfull, if_true, h1, hnf, Bool.false_eq_true, if_false]
      rw [this]; exact hroom c1 w1 _ (by simpa using inv1) hfree
    · exact hroom c w _ inv (by have := inv.blen; simp at hfull; omega)

theorem mwOp_inv (inv : InMsg c0 ty cz c w emitted written) (op : WOp) :
    ∃ c' w' emitted', mwOp c w op = (c', w', none) ∧ InMsg c0 ty cz c' w' emitted' (written ++ op.data) := by
  cases op with
  | write p =>
    simp only [mwOp, mwWrite, inv.wErr, WOp.data]
    split
    · rename_i hbig
      obtain ⟨c1, w1, f, h1, inv1, _⟩ := inv.flush p (fun h => by simp [h] at hbig)
      exact sync_inv ⟨c1, w1, _, h1, inv1⟩
    · exact sync_inv (copyLoop_inv (p.length + 1) c w emitted written p inv (by omega))
  | writeString p =>
    simp only [mwOp, mwWriteString, inv.wErr, WOp.data]
    exact sync_inv (copyLoop_inv (p.length + 1) c w emitted written p inv (by omega))
  | readFrom ks p =>
    simp only [mwOp, mwReadFrom, inv.wErr, WOp.data]
    exact sync_inv (readFromLoop_inv (p.length + 2) c w emitted written ks p inv (by omega))
end

theorem mwOps_inv {c0 : WConn} {ty : Nat} {cz : Bool} (ops : List WOp) :
    ∀ (c : WConn) (w : MW) (emitted : List Frame) (written : Bytes), InMsg c0 ty cz c w emitted written →
    ∃ c' w' emitted', mwOps c w ops = (c', w', none) ∧
      InMsg c0 ty cz c' w' emitted' (written ++ (ops.map WOp.data).flatten) := by
  induction ops with
  | nil => intro c w em wr inv; exact ⟨c, w, em, rfl, by simpa using inv⟩
  | cons op ops ih =>
    intro c w em wr inv
    obtain ⟨c1, w1, em1, h1, inv1⟩ := mwOp_inv inv op
    obtain ⟨c2, w2, em2, h2, inv2⟩ := ih c1 w1 em1 _ inv1
    refine ⟨c2, w2, em2, ?_, ?_⟩
    · simp only [mwOps, h1]; exact h2
    · simpa [List.append_assoc] using inv2

/-- The frames of one complete data message as the writer of role `isServer` emits them: at least one;
the first carries the message type (and RSV1 iff compressed), the others are continuations without
RSV1; FIN on the last and only there; mask per role; minimal length forms; no RSV2/3. -/
def MsgShape (isServer : Bool) (ty : Nat) (cz : Bool) (frames : List Frame) : Prop :=
  frames ≠ [] ∧ ∀ (i : Nat) (f : Frame), frames[i]? = some f →
    IsOut isServer (if i = 0 then ty else continuationFrame) (i == 0 && cz) (i + 1 == frames.length) f

section
variable {isServer : Bool} {ty : Nat} {cz : Bool} {frames : List Frame}

theorem MsgShape.ne_nil (h : MsgShape isServer ty cz frames) : frames ≠ [] := h.1

theorem MsgShape.get (h : MsgShape isServer ty cz frames) {i : Nat} {f : Frame} (hi : frames[i]? = some f) :
    IsOut isServer (if i = 0 then ty else continuationFrame) (i == 0 && cz) (i + 1 == frames.length) f := h.2 i f hi

theorem MsgShape.head {f : Frame} {fs : List Frame} (h : MsgShape isServer ty cz (f :: fs)) :
    IsOut isServer ty cz (fs.length == 0) f := by simpa using h.get (i := 0) rfl

/-- After its first frame a message goes on as a message of continuation frames: what holds of `MsgShape` for every
frame type covers the tail as well. -/
theorem MsgShape.tail {f g : Frame} {gs : List Frame} (h : MsgShape isServer ty cz (f :: g :: gs)) :
    IsOut isServer ty cz false f ∧ MsgShape isServer continuationFrame false (g :: gs) := by
  refine ⟨h.head, by simp, fun i f' hf' => ?_⟩
  simpa using h.get (i := i + 1) (by simpa using hf')
end

/-- Between two messages: nothing latched, no writer open, room in the buffer, keys of four bytes, and the
role and compression setting of `c0`. -/
structure Ready (c0 c : WConn) : Prop where
  noErr : c.writeErr = none
  noWriter : c.writer = none
  srv : c.isServer = c0.isServer
  bpos : 1 ≤ c.bufSize
  dfl : c.deflate = c0.deflate
  keys : ∀ k ∈ c.keys, k.length = 4

theorem Ready.init {c : WConn} (hw : c.writer = none) (hE : c.writeErr = none) (hB : 1 ≤ c.bufSize)
    (hK : ∀ k ∈ c.keys, k.length = 4) : Ready c c := ⟨hE, hw, rfl, hB, rfl, hK⟩

theorem Ready.trans {c0 c c' : WConn} (h : Ready c0 c) (h' : Ready c c') : Ready c0 c' :=
  { h' with srv := h'.srv.trans h.srv, dfl := h'.dfl.trans h.dfl }

/-- What one complete data message `data` leaves, from `c` to `c'`. -/
structure Written (c c' : WConn) (ty : Nat) (cz : Bool) (frames : List Frame) (data : Bytes) : Prop where
  sent : c'.sent = (frames.map serialise).reverse ++ c.sent
  payload : (frames.map (·.payload)).flatten = data
  shape : MsgShape c.isServer ty cz frames
  ready : Ready c c'

theorem mwClose_inv {c0 c : WConn} {ty : Nat} {cz : Bool} {w : MW} {emitted : List Frame} {written : Bytes}
    (inv : InMsg c0 ty cz c w emitted written) :
    ∃ c' w' frames, mwClose c w = (c', w', none) ∧ Written c0 c' ty cz frames written := by
  have hfl := flushFrame_ok c w true [] inv.noErr (by have := inv.ft_le; omega)
    (by simp [isControl_of_le inv.ft_le]) (fun _ => rfl)
  simp only [mwClose, inv.wErr, hfl, if_true, List.append_nil]
  refine ⟨_, _, emitted ++ [outFrame c.isServer (nextKey c).1 w.frameType true w.compress w.buf], rfl,
    by simp [inv.sent], by simp [← inv.pay, outFrame], ⟨by simp, ?_⟩,
    { noErr := by simp [inv.notClose], noWriter := rfl, srv := by simp [inv.srv], bpos := by simp [inv.bpos]
      dfl := by simp [inv.dfl], keys := sendFrame_keys c w.frameType true w.compress w.buf inv.keys }⟩
  refine forall_getElem?_snoc (fun i f hf => ?_) (by simpa using inv.isOut_next true w.buf)
  -- an earlier frame is not the last
  have hi : i < emitted.length := (List.getElem?_eq_some_iff.mp hf).1
  have : (i + 1 == emitted.length + 1) = false := by simp; omega
  simpa [this] using inv.shape i f hf

theorem InMsg.init (c : WConn) (ty : Nat) (cz : Bool) (hty : ty = TextMessage ∨ ty = BinaryMessage)
    (hB : 1 ≤ c.bufSize) (hE : c.writeErr = none) (hK : ∀ k ∈ c.keys, k.length = 4) :
    InMsg c ty cz c { compress := cz, buf := [], frameType := ty } [] [] :=
  ⟨rfl, hB, hE, rfl, by simp, by simp, by simp, by simp, by simp, hK,
   by intro i f hf; simp at hf, hty, rfl⟩

theorem writer_message (c : WConn) (ty : Nat) (cz : Bool) (hty : ty = TextMessage ∨ ty = BinaryMessage)
    (hB : 1 ≤ c.bufSize) (hE : c.writeErr = none) (hK : ∀ k ∈ c.keys, k.length = 4) (ops : List WOp) :
    ∃ c1 w1 c2 w2 frames,
      mwOps c { compress := cz, buf := [], frameType := ty } ops = (c1, w1, none) ∧
      mwClose c1 w1 = (c2, w2, none) ∧ Written c c2 ty cz frames (ops.map WOp.data).flatten := by
  obtain ⟨c1, w1, em1, h1, inv1⟩ := mwOps_inv ops c _ [] [] (InMsg.init c ty cz hty hB hE hK)
  obtain ⟨c2, w2, frames, h2, hw⟩ := mwClose_inv inv1
  exact ⟨c1, w1, c2, w2, frames, h1, h2, by simpa using hw⟩

theorem writeMsg_wire {c0 c : WConn} (hr : Ready c0 c) (ty : Nat) (hty : ty = TextMessage ∨ ty = BinaryMessage)
    (ops : List WOp) :
    ∃ c' frames, writeMsg c ty ops = (c', none) ∧ Written c c' ty c.deflate frames (ops.map WOp.data).flatten := by
  obtain ⟨c1, w1, c', w', frames, h1, h2, hw⟩ :=
    writer_message { c with writer := some { compress := c.deflate, buf := [], frameType := ty } } ty c.deflate hty
      hr.bpos hr.noErr hr.keys ops
  refine ⟨c', frames, ?_, { hw with ready := { hw.ready with } }⟩
  simp only [writeMsg, nextWriter_data c ty hr.noWriter hr.noErr hty, h1, h2]

/-! ### the frames of a message obey the spec's sender rules, and the spec's parser reads them back -/

def senderRole (isServer : Bool) : Role := if isServer then .server else .client

theorem senderRole_beq_server (b : Bool) : (senderRole b == Role.server) = b := by cases b <;> rfl
theorem senderRole_beq_client (b : Bool) : (senderRole b == Role.client) = !b := by cases b <;> rfl

theorem minimalLen_outFrame (isServer : Bool) (key : Bytes) (op : Nat) (fin r1 : Bool) (p : Bytes)
    (h : p.length < 2 ^ 63) : minimalLen (outFrame isServer key op fin r1 p) = true := by
  dsimp only [minimalLen, outFrame]
  rcases formOf_cases p.length with ⟨hf, hn⟩ | ⟨hf, hn, hn'⟩ | ⟨hf, hn⟩ <;>
    simp only [hf, Bool.and_eq_true, decide_eq_true_eq] <;> omega

theorem IsOut.wf {isServer : Bool} {op : Nat} {r1 fin : Bool} {f : Frame} (h : IsOut isServer op r1 fin f)
    (hop : op < 16) (hlen : f.payload.length < 2 ^ 63) : f.WF := by
  obtain ⟨key, payload, rfl, hk⟩ := h
  have hform := formOf_cases payload.length
  unfold Frame.WF
  dsimp only [outFrame] at hlen ⊢
  refine ⟨hop, by omega, by omega, by omega, by omega, ?_, rfl⟩
  cases isServer <;> simp [hk]

/-- Where a data frame may stand: text/binary outside a fragmented message (RSV1 only under `deflate`), a continuation
without RSV1 inside one. -/
inductive Fits (deflate : Bool) : Nat → Bool → Bool → Prop
  | start {ty : Nat} {cz : Bool} (hty : ty = TextMessage ∨ ty = BinaryMessage) (hdef : cz = true → deflate = true) :
    Fits deflate ty cz false
  | cont : Fits deflate continuationFrame false true

theorem Fits.opcode {deflate : Bool} {op : Nat} {r1 inMsg : Bool} (h : Fits deflate op r1 inMsg) :
    op = 0 ∨ op = 1 ∨ op = 2 := by
  cases h with
  | start hty => exact Or.inr hty
  | cont => exact Or.inl rfl

theorem IsOut.accepted {isServer : Bool} {op : Nat} {r1 fin : Bool} {f : Frame} (h : IsOut isServer op r1 fin f)
    {deflate inMsg : Bool} (hlen : f.payload.length < 2 ^ 63) (hfit : Fits deflate op r1 inMsg) :
    frameOk (senderRole isServer) deflate inMsg f = true ∧
      violation (senderRole (!isServer)) deflate inMsg f = false := by
  obtain ⟨key, payload, rfl, hk⟩ := h
  have hmin := minimalLen_outFrame isServer key op fin r1 payload hlen
  have hbig : ¬ 2 ^ 63 ≤ payload.length := Nat.not_le.mpr hlen
  simp only [frameOk, violation, outFrame] at hmin ⊢
  simp only [senderRole_beq_client, senderRole_beq_server, beq_self_eq_true, bne_self_eq_false, hmin, hbig, decide_false]
  -- what is left are the header bits, with a concrete opcode
  cases hfit with
  | cont => exact ⟨rfl, rfl⟩
  | start hty hdef =>
    rcases hty with rfl | rfl <;> cases r1
    · exact ⟨rfl, rfl⟩
    · rw [hdef rfl]; exact ⟨rfl, rfl⟩
    · exact ⟨rfl, rfl⟩
    · rw [hdef rfl]; exact ⟨rfl, rfl⟩

theorem MsgShape.valid {isServer : Bool} (deflate : Bool) (frames : List Frame) :
    ∀ {ty : Nat} {cz inMsg : Bool}, MsgShape isServer ty cz frames → (∀ f ∈ frames, f.payload.length < 2 ^ 63) →
      Fits deflate ty cz inMsg → validSeq (senderRole isServer) deflate inMsg frames = true := by
  induction frames with
  | nil => intro _ _ _ h; exact absurd rfl h.ne_nil
  | cons f fs ih =>
    intro ty cz inMsg hs hl hfit
    cases fs with
    | nil => simp [validSeq, (hs.head.accepted (hl f (by simp)) hfit).1]
    | cons g gs =>
      obtain ⟨hf, htl⟩ := hs.tail
      have hnext : nextInMsg inMsg f = true := by
        rcases hfit.opcode with h | h | h <;> simp [nextInMsg, hf.opcode, hf.fin, h, Spec.Ws.isControl]
      rw [validSeq, (hf.accepted (hl f (by simp)) hfit).1, hnext]
      exact ih htl (fun f' h' => hl f' (by simp [h'])) .cont

theorem MsgShape.wf {isServer : Bool} {ty : Nat} {cz : Bool} {frames : List Frame} (hs : MsgShape isServer ty cz frames)
    (hty : ty = TextMessage ∨ ty = BinaryMessage) (hl : ∀ f ∈ frames, f.payload.length < 2 ^ 63) :
    ∀ f ∈ frames, f.WF := by
  intro f hf
  obtain ⟨i, hi⟩ := List.getElem?_of_mem hf
  refine (hs.get hi).wf ?_ (hl f hf)
  by_cases h0 : i = 0
  · rw [if_pos h0]; have := dataType_le hty; omega
  · rw [if_neg h0]; simp [continuationFrame]

theorem payload_lt {n : Nat} {frames : List Frame} (hn : (frames.map (·.payload)).flatten.length < n) :
    ∀ f ∈ frames, f.payload.length < n := by
  induction frames with
  | nil => intro f h; cases h
  | cons g gs ih =>
    simp only [List.map_cons, List.flatten_cons, List.length_append] at hn
    intro f h
    rcases List.mem_cons.mp h with rfl | h'
    · omega
    · exact ih (by omega) f h'

section
variable {c c' : WConn} {ty : Nat} {cz : Bool} {frames : List Frame} {data : Bytes}

theorem Written.wire (h : Written c c' ty cz frames data) : c'.wire = c.wire ++ serialiseAll frames := by
  unfold WConn.wire
  rw [h.sent, serialiseAll_eq_flatten]
  simp

theorem Written.small (h : Written c c' ty cz frames data) (hlen : data.length < 2 ^ 63) :
    ∀ f ∈ frames, f.payload.length < 2 ^ 63 := payload_lt (h.payload ▸ hlen)

theorem Written.wf (h : Written c c' ty cz frames data) (hty : ty = TextMessage ∨ ty = BinaryMessage)
    (hlen : data.length < 2 ^ 63) : ∀ f ∈ frames, f.WF := h.shape.wf hty (h.small hlen)

theorem Written.parse (h : Written c c' ty cz frames data) (hty : ty = TextMessage ∨ ty = BinaryMessage)
    {deflate : Bool} (hdef : cz = true → deflate = true) (hlen : data.length < 2 ^ 63) :
    Spec.Ws.parse (senderRole c.isServer) deflate (serialiseAll frames) = .ok frames := by
  unfold Spec.Ws.parse
  rw [Spec.Ws.parseAll_serialiseAll frames (h.wf hty hlen)]
  simp [h.shape.valid deflate frames (h.small hlen) (.start hty hdef)]
end

end Oryx.WsWrite
