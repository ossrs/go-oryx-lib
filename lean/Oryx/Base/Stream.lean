/-
  Stream readers: decoders that pull from a transport. The model reader is a function on the
  remaining input (the joined byte stream, so independence from transport segmentation is
  definitional in the model; that bufio.Reader + io.ReadFull realise it is trusted and exercised
  by the correspondence harness).

  `readFull n` is Go's `io.ReadFull(r, make([]byte, n))` / `binary.Read` of an n-byte value on a
  stream that ends after the given bytes: n = 0 succeeds without reading; no byte available = io.EOF;
  some but fewer than n = io.ErrUnexpectedEOF.
  `copyN n` is `io.CopyN(dst, r, n)`: fewer than n bytes available = io.EOF (also when some arrived).
-/
import Oryx.Base.Bytes
namespace Oryx
open Res

def readFull (n : Nat) (bs : Bytes) : Res (Bytes × Bytes) :=
  if n = 0 then ok ([], bs)
  else match bs with
    | [] => err .eof
    | _ :: _ =>
      -- `(bs.take n).length < n` iff `bs.length < n`, without walking the whole stream
      let a := bs.take n
      if a.length < n then err .ueof else ok (a, bs.drop n)

/-- The specification-level reading of `readFull` (what the comment above says). -/
theorem readFull_eq (n : Nat) (bs : Bytes) :
    readFull n bs =
      if n = 0 then ok ([], bs)
      else if bs.length = 0 then err .eof
      else if bs.length < n then err .ueof
      else ok (bs.take n, bs.drop n) := by
  unfold readFull
  split
  · rfl
  · cases bs with
    | nil => rfl
    | cons b rest => simp only [length_take_lt, List.length_cons, Nat.add_one_ne_zero, if_false]

def copyN (n : Nat) (bs : Bytes) : Res (Bytes × Bytes) :=
  let a := bs.take n
  if a.length < n then err .eof else ok (a, bs.drop n)

theorem copyN_eq (n : Nat) (bs : Bytes) :
    copyN n bs = if bs.length < n then err .eof else ok (bs.take n, bs.drop n) := by
  unfold copyN
  simp only [length_take_lt]

theorem readFull_append {n : Nat} (a rest : Bytes) (h : a.length = n) :
    readFull n (a ++ rest) = ok (a, rest) := by
  subst h
  rw [readFull_eq]
  by_cases h0 : a.length = 0
  · have : a = [] := List.length_eq_zero_iff.mp h0
    subst this; simp
  · simp [h0]

theorem readFull_one (b : UInt8) (rest : Bytes) : readFull 1 (b :: rest) = ok ([b], rest) :=
  readFull_append [b] rest (n := 1) rfl

theorem copyN_append {n : Nat} (a rest : Bytes) (h : a.length = n) :
    copyN n (a ++ rest) = ok (a, rest) := by
  subst h; simp [copyN_eq]

theorem readFull_ne_panic (n : Nat) (bs : Bytes) : readFull n bs ≠ .panic := by
  rw [readFull_eq]
  repeat' split
  all_goals simp

theorem copyN_ne_panic (n : Nat) (bs : Bytes) : copyN n bs ≠ .panic := by
  rw [copyN_eq]; split <;> simp

/-- On success the bytes read have the requested length and input = read ++ rest. -/
theorem readFull_ok {n : Nat} {bs a rest : Bytes} (h : readFull n bs = ok (a, rest)) :
    a.length = n ∧ bs = a ++ rest := by
  rw [readFull_eq] at h
  split at h
  · simp at h; obtain ⟨rfl, rfl⟩ := h; simp [*]
  · split at h
    · simp at h
    · split at h
      · simp at h
      · simp at h
        obtain ⟨rfl, rfl⟩ := h
        refine ⟨?_, (List.take_append_drop n bs).symm⟩
        simp; omega

theorem copyN_ok {n : Nat} {bs a rest : Bytes} (h : copyN n bs = ok (a, rest)) :
    a.length = n ∧ bs = a ++ rest := by
  rw [copyN_eq] at h
  split at h
  · simp at h
  · simp at h
    obtain ⟨rfl, rfl⟩ := h
    refine ⟨?_, (List.take_append_drop n bs).symm⟩
    simp; omega

end Oryx
