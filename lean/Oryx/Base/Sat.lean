/-
  `Res.Sat x Q`: the modelled call `x` does not panic and, if it returns a value, the value satisfies `Q`
  (an error return is allowed). One pass over a decoder written with `>>=` then gives its no-panic theorem
  and its postcondition (bytes consumed, well-formedness of the result, …) together: `Sat.bind` composes,
  the primitives below start it.
-/
import Oryx.Base.Stream
namespace Oryx
open Res

namespace Res

def Sat (x : Res α) (Q : α → Prop) : Prop := x ≠ panic ∧ ∀ a, x = ok a → Q a

theorem Sat.ne_panic {x : Res α} {Q : α → Prop} (h : x.Sat Q) : x ≠ panic := h.1

theorem Sat.of_ok {x : Res α} {Q : α → Prop} {a : α} (h : x.Sat Q) (e : x = ok a) : Q a := h.2 a e

theorem sat_ok {Q : α → Prop} {a : α} (h : Q a) : (ok a).Sat Q :=
  ⟨nofun, fun _ e => by cases e; exact h⟩

theorem sat_err {Q : α → Prop} {k : EK} : (err k : Res α).Sat Q :=
  ⟨nofun, nofun⟩

theorem sat_of_ne_panic {x : Res α} (h : x ≠ panic) : x.Sat fun _ => True := ⟨h, fun _ _ => trivial⟩

theorem Sat.imp {x : Res α} {P Q : α → Prop} (h : x.Sat P) (hPQ : ∀ a, P a → Q a) : x.Sat Q :=
  ⟨h.1, fun a e => hPQ a (h.2 a e)⟩

theorem Sat.bind {x : Res α} {f : α → Res β} {P : α → Prop} {Q : β → Prop}
    (hx : x.Sat P) (hf : ∀ a, P a → (f a).Sat Q) : (x >>= f).Sat Q := by
  cases x with
  | ok a => exact hf a (hx.2 a rfl)
  | err k => exact sat_err
  | panic => exact absurd rfl hx.1

theorem sat_ite {c : Prop} [Decidable c] {x y : Res α} {Q : α → Prop}
    (hx : c → x.Sat Q) (hy : ¬c → y.Sat Q) : (if c then x else y).Sat Q := by
  split
  · exact hx ‹_›
  · exact hy ‹_›

end Res

theorem readFull_sat (n : Nat) (bs : Bytes) :
    (readFull n bs).Sat fun r => r.1.length = n ∧ bs = r.1 ++ r.2 :=
  ⟨readFull_ne_panic n bs, fun _ e => readFull_ok e⟩

/-- `readFull_sat` for a reader's `let (a, rest) ← readFull n bs; …`. -/
theorem Res.Sat.readFull {n : Nat} {bs : Bytes} {f : Bytes × Bytes → Res β} {Q : β → Prop}
    (h : ∀ a rest, a.length = n → bs = a ++ rest → (f (a, rest)).Sat Q) : (readFull n bs >>= f).Sat Q :=
  (readFull_sat n bs).bind fun r hr => h r.1 r.2 hr.1 hr.2

theorem copyN_sat (n : Nat) (bs : Bytes) :
    (copyN n bs).Sat fun r => r.1.length = n ∧ bs = r.1 ++ r.2 :=
  ⟨copyN_ne_panic n bs, fun _ e => copyN_ok e⟩

theorem idx_sat (l : List α) (i : Nat) (h : i < l.length) : (idx l i).Sat fun a => a = l[i] := by
  simp [idx, List.getElem?_eq_getElem h, sat_ok]

theorem sliceFrom_sat (l : List α) (lo : Nat) (h : lo ≤ l.length) :
    (sliceFrom l lo).Sat fun r => r = l.drop lo := by
  simp [sliceFrom, h, sat_ok]

end Oryx
