/-
  Bit fields as arithmetic. A `w`-bit field at bit `lo` of a number `x` is `x / 2^lo % 2^w`; Go's spellings of
  reading and writing such a field of a byte (`(b >> k) & m`, `(b & m) >> k`, `(b & m) << k`, `(b << k) & m`, `x | y`)
  are stated once on `toNat`, with the literals as arguments, so that codec proofs about packed bytes are
  arithmetic on variables and enumerate nothing.
-/
import Oryx.Base.Bytes
namespace Oryx

/-- A field of a field: `d` values at unit `c` inside the low `b`. -/
theorem mod_div_mod (x : Nat) {b c d : Nat} (h : c * d ∣ b) : x % b / c % d = x / c % d := by
  obtain ⟨k, rfl⟩ := h
  rw [Nat.mul_assoc, Nat.mod_mul_right_div_self, Nat.mod_mod_of_dvd _ (Nat.dvd_mul_right d k)]

/-- Two adjacent fields read as one. The products are hypotheses so that literals match (`rfl` closes them). -/
theorem div_mod_concat (x : Nat) {c d e cd de : Nat} (h1 : c * d = cd) (h2 : d * e = de) :
    x / c % d + d * (x / cd % e) = x / c % de := by
  subst h1 h2
  rw [Nat.mod_mul, Nat.div_div_eq_div_mul]

/-- The high field of `a * b + c`; the low one is `Nat.mul_add_mod_of_lt`. -/
theorem mul_add_div_of_lt {a b c : Nat} (h : c < b) : (a * b + c) / b = a := by
  rw [Nat.add_comm, Nat.add_mul_div_right _ _ (Nat.zero_lt_of_lt h), Nat.div_eq_of_lt h, Nat.zero_add]

theorem and_mask (x lo w : Nat) : x &&& (2 ^ w - 1) * 2 ^ lo = x / 2 ^ lo % 2 ^ w * 2 ^ lo := by
  apply Nat.eq_of_testBit_eq
  intro i
  simp only [Nat.testBit_and, Nat.testBit_mul_two_pow, Nat.testBit_two_pow_sub_one, Nat.testBit_mod_two_pow,
    Nat.testBit_div_two_pow]
  by_cases h : lo ≤ i
  · simp [h, Bool.and_comm]
  · simp [h]

/-! Go's shift-and-mask spelling of a `w`-bit field at bit `lo` of a byte, as arithmetic on `toNat`. Arguments:
the byte, then shift `k` and mask `m` in the order the spelling applies them (`u8_shr_and b k m`,
`u8_and_shl b m k`), then `lo` and `w`. `m` is the field's mask at bit 0 (`2^w - 1`) or in place
(`(2^w - 1) * 2^lo`); the side conditions on the literals `k`, `m`, `lo`, `w` are decided at each use. -/

theorem u8_and (b m : UInt8) (lo w : Nat) (hm : m.toNat = (2 ^ w - 1) * 2 ^ lo := by decide) :
    (b &&& m).toNat = b.toNat / 2 ^ lo % 2 ^ w * 2 ^ lo := by
  rw [UInt8.toNat_and, hm, and_mask]

theorem u8_shr_and (b k m : UInt8) (lo w : Nat) (hk : k.toNat = lo := by decide)
    (hm : m.toNat = 2 ^ w - 1 := by decide) (hlo : lo < 8 := by decide) :
    ((b >>> k) &&& m).toNat = b.toNat / 2 ^ lo % 2 ^ w := by
  rw [UInt8.toNat_and, UInt8.toNat_shiftRight, hk, hm, Nat.mod_eq_of_lt hlo, Nat.and_two_pow_sub_one_eq_mod,
    Nat.shiftRight_eq_div_pow]

theorem u8_and_shr (b m k : UInt8) (lo w : Nat) (hk : k.toNat = lo := by decide)
    (hm : m.toNat = (2 ^ w - 1) * 2 ^ lo := by decide) (hlo : lo < 8 := by decide) :
    ((b &&& m) >>> k).toNat = b.toNat / 2 ^ lo % 2 ^ w := by
  rw [UInt8.toNat_shiftRight, u8_and b m lo w hm, hk, Nat.mod_eq_of_lt hlo, Nat.shiftRight_eq_div_pow,
    Nat.mul_div_cancel _ (Nat.two_pow_pos lo)]

theorem u8_and_shl (b m k : UInt8) (lo w : Nat) (hk : k.toNat = lo := by decide)
    (hm : m.toNat = 2 ^ w - 1 := by decide) (hlo : lo < 8 := by decide) (h8 : lo + w ≤ 8 := by decide) :
    ((b &&& m) <<< k).toNat = b.toNat % 2 ^ w * 2 ^ lo := by
  rw [UInt8.toNat_shiftLeft, UInt8.toNat_and, hk, hm, Nat.mod_eq_of_lt hlo, Nat.and_two_pow_sub_one_eq_mod,
    Nat.shiftLeft_eq]
  apply Nat.mod_eq_of_lt
  calc _ < 2 ^ w * 2 ^ lo := Nat.mul_lt_mul_of_pos_right (Nat.mod_lt _ (Nat.two_pow_pos w)) (Nat.two_pow_pos lo)
    _ = 2 ^ (w + lo) := (Nat.pow_add ..).symm
    _ ≤ 2 ^ 8 := Nat.pow_le_pow_right (by decide) (by omega)

theorem u8_shl_and (b k m : UInt8) (lo w : Nat) (hk : k.toNat = lo := by decide)
    (hm : m.toNat = (2 ^ w - 1) * 2 ^ lo := by decide) (hlo : lo < 8 := by decide) (h8 : lo + w ≤ 8 := by decide) :
    ((b <<< k) &&& m).toNat = b.toNat % 2 ^ w * 2 ^ lo := by
  have e : 2 ^ 8 = 2 ^ (8 - lo) * 2 ^ lo := by rw [← Nat.pow_add]; congr 1; omega
  rw [u8_and _ m lo w hm, UInt8.toNat_shiftLeft, hk, Nat.mod_eq_of_lt hlo, Nat.shiftLeft_eq, e, Nat.mul_mod_mul_right,
    Nat.mul_div_cancel _ (Nat.two_pow_pos lo), Nat.mod_mod_of_dvd _ (Nat.pow_dvd_pow 2 (by omega))]

/-- `|||` of fields that do not overlap adds. -/
theorem u8_or {x y : UInt8} {X Y : Nat} (lo : Nat) (hx : x.toNat = X) (hy : y.toNat = Y) (hd : 2 ^ lo ∣ X)
    (hlt : Y < 2 ^ lo) : (x ||| y).toNat = X + Y := by
  obtain ⟨a, rfl⟩ := hd
  rw [UInt8.toNat_or, hx, hy, Nat.two_pow_add_eq_or_of_lt hlt]

theorem eq_ofNat_of_toNat {b : UInt8} {n : Nat} (h : b.toNat = n) : b = UInt8.ofNat n := by
  rw [← h, UInt8.ofNat_toNat]

end Oryx
