/-
  Base: bytes, three-valued results with Go's panic semantics, big/little-endian
  (de)composition with the round-trip lemmas every codec proof uses.
  Core Lean only (linked into the `oracle` executable).
-/
namespace Oryx

abbrev Bytes := List UInt8

/-- Error classes. Error *texts* are never modelled or compared. -/
inductive EK where
  | generic | eof | ueof | inject
  deriving DecidableEq, Repr, Inhabited

/-- Result of a modelled Go call: value, returned error, or run-time panic. -/
inductive Res (α : Type) where
  | ok (a : α)
  | err (k : EK)
  | panic
  deriving Repr, DecidableEq

namespace Res

@[inline] def bind : Res α → (α → Res β) → Res β
  | ok a, f => f a
  | err k, _ => err k
  | panic, _ => panic

instance : Monad Res where
  pure := ok
  bind := Res.bind

def isOk : Res α → Bool | ok _ => true | _ => false
def isErr : Res α → Bool | err _ => true | _ => false
def isPanic : Res α → Bool | panic => true | _ => false

@[simp] theorem isPanic_ok (a : α) : (ok a : Res α).isPanic = false := rfl
@[simp] theorem isPanic_err (k : EK) : (err k : Res α).isPanic = false := rfl
@[simp] theorem isPanic_panic : (panic : Res α).isPanic = true := rfl
theorem isPanic_ite (c : Prop) [Decidable c] (a b : Res α) :
    (if c then a else b).isPanic = if c then a.isPanic else b.isPanic := by split <;> rfl
theorem isPanic_false_iff {x : Res α} : x.isPanic = false ↔ x ≠ panic := by cases x <;> simp [isPanic]

@[simp] theorem bind_ok (a : α) (f : α → Res β) : (ok a >>= f) = f a := rfl
@[simp] theorem bind_err (k : EK) (f : α → Res β) : (err k >>= f) = err k := rfl
@[simp] theorem bind_panic (f : α → Res β) : ((panic : Res α) >>= f) = panic := rfl
@[simp] theorem pure_eq (a : α) : (pure a : Res α) = ok a := rfl

theorem bind_eq_ok {x : Res α} {f : α → Res β} {b : β} :
    (x >>= f) = ok b ↔ ∃ a, x = ok a ∧ f a = ok b := by
  cases x <;> simp

theorem bind_ne_panic {x : Res α} {f : α → Res β}
    (hx : x ≠ panic) (hf : ∀ a, x = ok a → f a ≠ panic) : (x >>= f) ≠ panic := by
  cases x with
  | ok a => simpa using hf a rfl
  | err k => simp
  | panic => exact absurd rfl hx

theorem guard_ne_panic {c : Prop} [Decidable c] {k : EK} {x : Res α} (h : ¬c → x ≠ panic) :
    (if c then err k else x) ≠ panic := by
  split
  · exact nofun
  · exact h ‹_›

end Res

open Res

/-- Go `l[i]`: panics out of range. -/
def idx (l : List α) (i : Nat) : Res α :=
  match l[i]? with
  | some a => ok a
  | none => panic

/-- Go `l[lo:]`: panics when `lo > len l`. -/
def sliceFrom (l : List α) (lo : Nat) : Res (List α) :=
  if lo ≤ l.length then ok (l.drop lo) else panic

/-- Go `l[:hi]`: panics when `hi > len l` (capacity is not modelled: callers pass exact slices). -/
def sliceTo (l : List α) (hi : Nat) : Res (List α) :=
  if hi ≤ l.length then ok (l.take hi) else panic

/-- Go `l[lo:hi]`. -/
def slice (l : List α) (lo hi : Nat) : Res (List α) :=
  if lo ≤ hi ∧ hi ≤ l.length then ok ((l.take hi).drop lo) else panic

theorem sliceFrom_of_le {α} {l : List α} {n : Nat} (h : n ≤ l.length) : sliceFrom l n = ok (l.drop n) := by
  unfold sliceFrom; rw [if_pos h]

theorem sliceFrom_ok {α} {l r : List α} {n : Nat} (h : sliceFrom l n = ok r) : n ≤ l.length ∧ r = l.drop n := by
  unfold sliceFrom at h
  split at h
  · injection h with h; exact ⟨by assumption, h.symm⟩
  · cases h

theorem sliceFrom_append {α} (a b : List α) {n : Nat} (h : a.length = n) : sliceFrom (a ++ b) n = ok b := by
  subst h; simp [sliceFrom]

theorem sliceTo_of_le {α} {l : List α} {n : Nat} (h : n ≤ l.length) : sliceTo l n = ok (l.take n) := by
  unfold sliceTo; rw [if_pos h]

theorem idx_getD {α} {l : List α} {i : Nat} (h : i < l.length) (d : α) : idx l i = ok (l.getD i d) := by
  unfold idx; rw [List.getD_eq_getElem?_getD, List.getElem?_eq_getElem h]; rfl

/-! ### little / big endian over `Nat` -/

/-- `n` bytes little-endian of `v` (value reduced mod 256^n, as Go's `byte(v>>k)` does). -/
def le : Nat → Nat → Bytes
  | 0, _ => []
  | n+1, v => UInt8.ofNat (v % 256) :: le n (v / 256)

def ofLE : Bytes → Nat
  | [] => 0
  | b :: bs => b.toNat + 256 * ofLE bs

/-- `n` bytes big-endian of `v`. -/
def be (n v : Nat) : Bytes := (le n v).reverse

def ofBE (bs : Bytes) : Nat := ofLE bs.reverse

@[simp] theorem le_length (n v : Nat) : (le n v).length = n := by
  induction n generalizing v with
  | zero => rfl
  | succ n ih => simp [le, ih]

@[simp] theorem be_length (n v : Nat) : (be n v).length = n := by simp [be]

theorem u8_toNat_ofNat_mod (v : Nat) : (UInt8.ofNat (v % 256)).toNat = v % 256 := by
  simp [UInt8.toNat_ofNat']

theorem ofLE_le (n v : Nat) : ofLE (le n v) = v % 256 ^ n := by
  induction n generalizing v with
  | zero => simp [le, ofLE, Nat.mod_one]
  | succ n ih =>
    simp only [le, ofLE, ih, u8_toNat_ofNat_mod]
    rw [Nat.pow_succ, Nat.mul_comm (256 ^ n) 256, Nat.mod_mul]

theorem ofBE_be (n v : Nat) : ofBE (be n v) = v % 256 ^ n := by
  simp [ofBE, be, ofLE_le]

theorem ofBE_be_of_lt {n v : Nat} (h : v < 256 ^ n) : ofBE (be n v) = v := by
  rw [ofBE_be, Nat.mod_eq_of_lt h]

theorem UInt64.ofNat_ofBE_be (b : UInt64) : UInt64.ofNat (ofBE (be 8 b.toNat)) = b := by
  rw [ofBE_be_of_lt (by have := UInt64.toNat_lt b; omega)]
  exact UInt64.ofNat_toNat

theorem ofLE_le_of_lt {n v : Nat} (h : v < 256 ^ n) : ofLE (le n v) = v := by
  rw [ofLE_le, Nat.mod_eq_of_lt h]

theorem ofLE_lt (bs : Bytes) : ofLE bs < 256 ^ bs.length := by
  induction bs with
  | nil => simp [ofLE]
  | cons b bs ih =>
    have hb : b.toNat < 256 := UInt8.toNat_lt b
    simp only [ofLE, List.length_cons, Nat.pow_succ]
    omega

theorem ofBE_lt (bs : Bytes) : ofBE bs < 256 ^ bs.length := by
  have := ofLE_lt bs.reverse
  simpa [ofBE] using this

theorem le_ofLE (bs : Bytes) : le bs.length (ofLE bs) = bs := by
  induction bs with
  | nil => rfl
  | cons b bs ih =>
    have hb : b.toNat < 256 := UInt8.toNat_lt b
    have h1 : (b.toNat + 256 * ofLE bs) % 256 = b.toNat := by omega
    have h2 : (b.toNat + 256 * ofLE bs) / 256 = ofLE bs := by omega
    simp only [ofLE, List.length_cons, le, h1, h2, ih]
    congr 1
    exact UInt8.ofNat_toNat

theorem be_ofBE (bs : Bytes) : be bs.length (ofBE bs) = bs := by
  have := le_ofLE bs.reverse
  simp only [List.length_reverse] at this
  simp [be, ofBE, this]

theorem be_ofBE' {bs : Bytes} {n : Nat} (h : bs.length = n) : be n (ofBE bs) = bs := by
  subst h; exact be_ofBE bs

theorem le_ofLE' {bs : Bytes} {n : Nat} (h : bs.length = n) : le n (ofLE bs) = bs := by
  subst h; exact le_ofLE bs

theorem ofBE_take_lt (n : Nat) (q : Bytes) : ofBE (q.take n) < 256 ^ n :=
  Nat.lt_of_lt_of_le (ofBE_lt _) (Nat.pow_le_pow_right (by decide) (List.length_take_le n q))

theorem be_zero (v : Nat) : be 0 v = [] := rfl

theorem be_succ (n v : Nat) : be (n + 1) v = be n (v / 256) ++ [UInt8.ofNat v] := by
  rw [be, le, List.reverse_cons, show v % 256 = v % 2 ^ 8 from rfl, UInt8.ofNat_mod_size, be]

theorem be_one (v : Nat) : be 1 v = [UInt8.ofNat v] := by
  rw [be_succ, be_zero, List.nil_append]

theorem be_two (v : Nat) : be 2 v = [UInt8.ofNat (v / 256), UInt8.ofNat v] := by
  simp only [be_succ, be_zero, List.nil_append, List.cons_append]

theorem be_three (v : Nat) : be 3 v = [UInt8.ofNat (v / 65536), UInt8.ofNat (v / 256), UInt8.ofNat v] := by
  simp only [be_succ, be_zero, Nat.div_div_eq_div_mul, List.nil_append, List.cons_append]

theorem be_four (v : Nat) :
    be 4 v = [UInt8.ofNat (v / 16777216), UInt8.ofNat (v / 65536), UInt8.ofNat (v / 256), UInt8.ofNat v] := by
  simp only [be_succ, be_zero, Nat.div_div_eq_div_mul, List.nil_append, List.cons_append]

theorem be_seven (v : Nat) : be 7 v =
    [UInt8.ofNat (v / 2^48), UInt8.ofNat (v / 2^40), UInt8.ofNat (v / 2^32), UInt8.ofNat (v / 2^24),
     UInt8.ofNat (v / 2^16), UInt8.ofNat (v / 2^8), UInt8.ofNat v] := by
  simp only [be_succ, be_zero, Nat.div_div_eq_div_mul, List.nil_append, List.cons_append]

theorem be_mod (n v : Nat) : be n (v % 256 ^ n) = be n v := by
  rw [← ofBE_be, be_ofBE' (be_length n v)]

theorem be_inj {n a b : Nat} (ha : a < 256 ^ n) (hb : b < 256 ^ n) (h : be n a = be n b) : a = b := by
  have := congrArg ofBE h
  rwa [ofBE_be_of_lt ha, ofBE_be_of_lt hb] at this

theorem ofBE_inj_of_length {a b : Bytes} (hl : a.length = b.length) (h : ofBE a = ofBE b) : a = b := by
  rw [← be_ofBE a, ← be_ofBE b, h, hl]

/-! ### lists -/

theorem take_append_len {α} (a b : List α) {n : Nat} (h : a.length = n) : (a ++ b).take n = a := by
  subst h; simp

theorem drop_append_len {α} (a b : List α) {n : Nat} (h : a.length = n) : (a ++ b).drop n = b := by
  subst h; simp

theorem ofBE_take_be {n v : Nat} (h : v < 256 ^ n) (tl : Bytes) : ofBE ((be n v ++ tl).take n) = v := by
  rw [take_append_len _ _ (be_length n _), ofBE_be_of_lt h]

theorem forall_getElem?_snoc {α} {P : Nat → α → Prop} {l : List α} {x : α}
    (h : ∀ i a, l[i]? = some a → P i a) (hx : P l.length x) : ∀ i a, (l ++ [x])[i]? = some a → P i a := by
  intro i a hi
  rw [List.getElem?_append] at hi
  split at hi
  · exact h i a hi
  · rw [List.getElem?_singleton] at hi
    split at hi
    · cases hi; rwa [show i = l.length by omega]
    · cases hi

theorem take_length_eq_iff {α : Type} (l : List α) (n : Nat) : (l.take n).length = n ↔ n ≤ l.length := by
  rw [List.length_take]; omega

theorem length_take_lt {α : Type} (n : Nat) (l : List α) : (l.take n).length < n ↔ l.length < n := by
  rw [List.length_take]; omega

/-! ### deterministic payload descriptor `p:len:seed` (same LCG in the Go harness) -/

def lcgNext (s : Nat) : Nat := (s * 1664525 + 1013904223) % 4294967296

def lcgBytes : Nat → Nat → Bytes
  | 0, _ => []
  | n+1, s => let s' := lcgNext s; UInt8.ofNat ((s' / 65536) % 256) :: lcgBytes n s'

/-- Exhaustive reasoning over one byte: reduce `∀ b : UInt8` to `∀ i : Fin 256` (decidable). -/
theorem forall_u8 {P : UInt8 → Prop} (h : ∀ i : Fin 256, P (UInt8.ofNat i.val)) : ∀ b, P b := by
  intro b
  have := h ⟨b.toNat, UInt8.toNat_lt b⟩
  simpa using this

/-- The same for a field narrower than a byte: `∀ b < n` reduces to `∀ i : Fin n`. -/
theorem forall_u8_lt (n : UInt8) {P : UInt8 → Prop} (h : ∀ i : Fin n.toNat, P (UInt8.ofNat i.val)) :
    ∀ b : UInt8, b < n → P b := by
  intro b hb
  have := h ⟨b.toNat, hb⟩
  simpa using this

end Oryx
