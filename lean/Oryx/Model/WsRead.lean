/-
  Model of the read side of /repo/websocket/conn.go (REPAIRED tree: F14, F20, F21 fixed):
  `Conn.read`, `advanceFrame`, `handleProtocolError`, `NextReader`, `messageReader.Read` (as driven by
  `ioutil.ReadAll`), `ReadMessage`, the default ping/pong/close handlers and the part of
  `WriteControl` they use (the close-sent latch). Hand-written; tied to the Go code by `corr c14`.

  The transport is the list of bytes not yet consumed (`input`), followed by EOF. `bufio.Reader`
  segmentation is not modelled (DESIGN §6). `readRemaining`/`readLength` are Go `int64`s: modelled as
  `Int` with every conversion/addition going through `wrap64`. Core Lean only.
-/
import Oryx.Base.Bytes
import Oryx.Gen.Websocket
namespace Oryx.WsRead
open Oryx Oryx.Gen.Websocket

/-- Go `int64(x)` of an unsigned/wider value, and `int64 + int64`: two's complement wrap. -/
def wrap64 (n : Int) : Int := (n + 2 ^ 63) % 2 ^ 64 - 2 ^ 63

/-- Error classes returned by the read methods (texts are not modelled). -/
inductive RErr where
  | proto                              -- handleProtocolError: `errors.New("websocket: …")`, Close 1002 sent first
  | limit                              -- ErrReadLimit
  | close (code : Nat) (text : Bytes)  -- *CloseError built from a received Close frame
  | ueof                               -- errUnexpectedEOF = &CloseError{1006, "unexpected EOF"}
  | eof                                -- io.EOF (io.CopyN while skipping an abandoned frame)
  | internal                           -- "internal error, unexpected text or binary in Reader"
  deriving DecidableEq, Repr

/-- The read fields of `Conn` plus what the read path writes back. -/
structure RState where
  isServer : Bool
  decompress : Bool                    -- newDecompressionReader != nil
  readLimit : Int
  input : Bytes                        -- bytes the transport will still deliver, then EOF
  readFinal : Bool := true
  readRemaining : Int := 0
  readLength : Int := 0
  readErr : Option RErr := none
  readDecompress : Bool := false
  maskKey : Bytes := [0, 0, 0, 0]
  maskPos : Nat := 0
  replies : List (Nat × Bytes) := []   -- control frames written by the handlers: (opcode, payload), oldest first
  closeSent : Bool := false            -- c.writeErr == ErrCloseSent
  deriving DecidableEq, Repr

inductive Out (α : Type) where
  | ok (a : α) (s : RState)
  | fail (e : RErr) (s : RState)
  | panic
  deriving Repr

/-- State + error + panic monad of the read path. -/
def M (α : Type) := RState → Out α

@[inline] def M.bind (x : M α) (f : α → M β) : M β := fun s =>
  match x s with
  | .ok a s' => f a s'
  | .fail e s' => .fail e s'
  | .panic => .panic

instance : Monad M where
  pure a := fun s => .ok a s
  bind := M.bind

def get : M RState := fun s => .ok s s
def modify (f : RState → RState) : M Unit := fun s => .ok () (f s)
def throw (e : RErr) : M α := fun s => .fail e s
def mpanic : M α := fun _ => .panic

/-- `c.read(n)`: `br.Peek(n)`, `io.EOF → errUnexpectedEOF`, `br.Discard(len(p))`. -/
def readN (n : Nat) : M Bytes := fun s =>
  let p := s.input.take n
  if p.length = n then .ok p { s with input := s.input.drop n }
  else .fail .ueof { s with input := [] }

/-- `io.CopyN(ioutil.Discard, c.br, n)`: plain `io.EOF` when the stream ends first. -/
def skipN (n : Nat) : M Unit := fun s =>
  if (s.input.take n).length = n then .ok () { s with input := s.input.drop n }
  else .fail .eof { s with input := [] }

/-- Cyclic XOR with the 4-byte key starting at key index `pos` (`maskBytes`). -/
def maskBytes (key : Bytes) : Nat → Bytes → Bytes
  | _, [] => []
  | pos, b :: bs => (b ^^^ key.getD (pos % 4) 0) :: maskBytes key (pos + 1) bs

/-- `WriteControl` as the read path uses it (payload ≤ 125 always holds there; every caller on the
read path ignores the returned error, the default ping handler by swallowing ErrCloseSent): refused
once a Close has been written (`writeErr` latch), else the frame goes out; a Close sets the latch. -/
def sendCtl (op : Nat) (payload : Bytes) (s : RState) : RState :=
  if s.closeSent then s
  else { s with replies := s.replies ++ [(op, payload)], closeSent := op == CloseMessage }

/-- `handleProtocolError`: Close 1002 (reason text not modelled), then the error. -/
def protoErr : M α := fun s => .fail .proto (sendCtl CloseMessage (be 2 CloseProtocolError) s)

/-- `isValidReceivedCloseCode`: the set of codes the Go function accepts, regenerated by evaluating it for every
16-bit status code (`Gen.Websocket.closeCodeAccepted`). -/
def isValidReceivedCloseCode (code : Nat) : Bool := closeCodeAccepted code

/-- Go `utf8.ValidString` (stdlib, modelled from its documented behaviour: well-formed UTF-8 per
the Unicode standard, i.e. no overlongs, no surrogates, ≤ U+10FFFF). -/
def utf8ValidF : Nat → Bytes → Bool
  | _, [] => true
  | 0, _ => false
  | n + 1, a :: rest =>
    let x := a.toNat
    if x < 0x80 then utf8ValidF n rest
    else if x < 0xC2 then false
    else if x < 0xE0 then
      match rest with
      | b :: r => (0x80 ≤ b.toNat && b.toNat ≤ 0xBF) && utf8ValidF n r
      | _ => false
    else if x < 0xF0 then
      match rest with
      | b :: c :: r =>
        let lo := if x = 0xE0 then 0xA0 else 0x80
        let hi := if x = 0xED then 0x9F else 0xBF
        (lo ≤ b.toNat && b.toNat ≤ hi) && (0x80 ≤ c.toNat && c.toNat ≤ 0xBF) && utf8ValidF n r
      | _ => false
    else if x < 0xF5 then
      match rest with
      | b :: c :: d :: r =>
        let lo := if x = 0xF0 then 0x90 else 0x80
        let hi := if x = 0xF4 then 0x8F else 0xBF
        (lo ≤ b.toNat && b.toNat ≤ hi) && (0x80 ≤ c.toNat && c.toNat ≤ 0xBF) &&
          (0x80 ≤ d.toNat && d.toNat ≤ 0xBF) && utf8ValidF n r
      | _ => false
    else false

def utf8Valid (bs : Bytes) : Bool := utf8ValidF bs.length bs

/-- The two fixed header bytes decoded with the Go bit operations. -/
structure Hdr where
  final : Bool
  rsv1 : Bool
  rsv23 : Bool            -- p[0] & (rsv2Bit|rsv3Bit) != 0
  frameType : Nat
  mask : Bool
  len7 : Nat
  deriving DecidableEq, Repr

def decodeHdr (b0 b1 : UInt8) : Hdr :=
  { final := b0 &&& UInt8.ofNat finalBit != 0
    rsv1 := b0 &&& UInt8.ofNat rsv1Bit != 0
    rsv23 := b0 &&& UInt8.ofNat (rsv2Bit + rsv3Bit) != 0
    frameType := (b0 &&& 0xf).toNat
    mask := b1 &&& UInt8.ofNat maskBit != 0
    len7 := (b1 &&& 0x7f).toNat }

def isControl (t : Nat) : Bool := t == CloseMessage || t == PingMessage || t == PongMessage
def isData (t : Nat) : Bool := t == TextMessage || t == BinaryMessage

/-! The stages of `advanceFrame`. Each is written as the chain of early returns the Go code has
(`if … { return noFrame, … }` becomes `if … then <failure> else …`). -/

/-- Step 1: skip the remainder of the previous frame. -/
def skipPrev : M Unit := fun s =>
  if s.readRemaining > 0 then skipN s.readRemaining.toNat s else .ok () s

/-- Step 2a: read and decode the two fixed header bytes; `readRemaining = int64(p[1] & 0x7f)`. -/
def readHdr : M Hdr := fun s =>
  match readN 2 s with
  | .panic => .panic
  | .fail e s => .fail e s
  | .ok p s =>
    match p[0]?, p[1]? with
    | some b0, some b1 =>
      let h := decodeHdr b0 b1
      .ok h { s with readRemaining := wrap64 h.len7 }
    | _, _ => .panic       -- Go: index out of range

/-- Step 2b: RSV bits (RSV1 is the per-message-compressed bit only on the first frame of a data
message when deflate is negotiated) and the per-opcode rules. -/
def checkHdr (h : Hdr) : M Unit := fun s =>
  let pmc := s.decompress && h.rsv1 && isData h.frameType
  let s := { s with readDecompress := pmc }     -- `c.readDecompress = false; if … { c.readDecompress = true }`
  if (h.rsv1 && !pmc) || h.rsv23 then protoErr s
  else if isControl h.frameType then
    if h.len7 > maxControlFramePayloadSize then protoErr s
    else if !h.final then protoErr s
    else .ok () s
  else if isData h.frameType then
    if !s.readFinal then protoErr s
    else .ok () { s with readFinal := h.final }
  else if h.frameType == continuationFrame then
    if s.readFinal then protoErr s
    else .ok () { s with readFinal := h.final }
  else protoErr s

/-- Step 3: extended length. `int64(binary.BigEndian.Uint64(p))` wraps; a negative value (top bit
set) is a protocol error (F14 repair). -/
def readLength (h : Hdr) : M Unit := fun s =>
  if h.len7 == 126 then
    match readN 2 s with
    | .panic => .panic
    | .fail e s => .fail e s
    | .ok p s => .ok () { s with readRemaining := wrap64 (ofBE p) }
  else if h.len7 == 127 then
    match readN 8 s with
    | .panic => .panic
    | .fail e s => .fail e s
    | .ok p s =>
      let s := { s with readRemaining := wrap64 (ofBE p) }
      if s.readRemaining < 0 then protoErr s else .ok () s
  else .ok () s

/-- Step 4: mask rule for the role, masking key. -/
def readMask (h : Hdr) : M Unit := fun s =>
  if h.mask != s.isServer then protoErr s
  else if h.mask then
    match readN 4 s with
    | .panic => .panic
    | .fail e s => .fail e s
    | .ok k s => .ok () { s with maskPos := 0, maskKey := k }
  else .ok () s

/-- Step 5 (text, binary, continuation): read-limit accounting; the sum is an `int64` addition. -/
def dataFrame (h : Hdr) : M Nat := fun s =>
  let s := { s with readLength := wrap64 (s.readLength + s.readRemaining) }
  if s.readLength < 0 || (s.readLimit > 0 && s.readLength > s.readLimit) then
    .fail .limit (sendCtl CloseMessage (be 2 CloseMessageTooBig) s)
  else .ok h.frameType s

/-- Step 7 for a Close frame: body checks, default close handler (echo the code), `*CloseError`. -/
def handleCloseFrame (payload : Bytes) : M Nat := fun s =>
  if payload.length == 1 then protoErr s
  else if 2 ≤ payload.length then
    let code := ofBE (payload.take 2)
    if !isValidReceivedCloseCode code then protoErr s
    else
      let text := payload.drop 2
      if !utf8Valid text then protoErr s
      else .fail (.close code text) (sendCtl CloseMessage (be 2 code) s)
  else .fail (.close CloseNoStatusReceived []) (sendCtl CloseMessage [] s)

/-- Step 6: the control frame's payload (`payload, err = c.read(n); c.readRemaining = 0`), unmasked. -/
def readCtlPayload : M Bytes := fun s =>
  if s.readRemaining > 0 then
    match readN s.readRemaining.toNat { s with readRemaining := 0 } with
    | .panic => .panic
    | .fail e s => .fail e s
    | .ok p s => .ok (if s.isServer then maskBytes s.maskKey 0 p else p) s
  else .ok [] s

/-- Steps 6, 7 (close, ping, pong): payload, then the default handler. -/
def controlFrame (h : Hdr) : M Nat := fun s =>
  match readCtlPayload s with
  | .panic => .panic
  | .fail e s => .fail e s
  | .ok payload s =>
    if h.frameType == PongMessage then .ok h.frameType s                        -- default pong handler: nothing
    else if h.frameType == PingMessage then
      .ok h.frameType (sendCtl PongMessage payload s)                           -- default ping handler
    else handleCloseFrame payload s

/-- `advanceFrame`: returns the frame type (`continuationFrame`, Text, Binary, Ping, Pong). -/
def advanceFrame : M Nat := do
  skipPrev
  let h ← readHdr
  checkHdr h
  readLength h
  readMask h
  if h.frameType == continuationFrame || isData h.frameType then dataFrame h
  else controlFrame h

/-- The `for c.readErr == nil` loop of `NextReader`: `advanceFrame` until a Text/Binary frame; an
error is latched in `readErr` (hideTempErr is the identity on the modelled errors). Fuel
exhaustion is a panic (never happens: `nextReaderLoop_post`). Returns the message type. -/
def nextReaderLoop : Nat → M Nat
  | 0 => fun _ => .panic
  | fuel + 1 => fun s =>
    match s.readErr with
    | some e => .fail e s
    | none =>
      match advanceFrame s with
      | .panic => .panic
      | .fail e s' => .fail e { s' with readErr := some e }
      | .ok ft s' =>
        if ft == TextMessage || ft == BinaryMessage then .ok ft s'
        else nextReaderLoop fuel s'

/-- `NextReader` (the 1000-failed-reads panic counter is not modelled). -/
def nextReader : M Nat := fun s =>
  nextReaderLoop (s.input.length + 1) { s with readLength := 0 }

/-- `ioutil.ReadAll` over `messageReader.Read`, at frame granularity. Returns the bytes read and the
error `ReadAll` stopped on (`none` = the reader's `io.EOF`, i.e. the message is complete). -/
def readAllLoop : Nat → Bytes → M (Bytes × Option RErr)
  | 0, _ => fun _ => .panic
  | fuel + 1, acc => fun s =>
    match s.readErr with
    | some e => .ok (acc, some (if e = .eof then .ueof else e)) s   -- Read returns (0, readErr)
    | none =>
      if s.readRemaining > 0 then
        let n := (s.input.take s.readRemaining.toNat).length     -- min(readRemaining, available)
        if n == 0 then
          -- br.Read returned (0, io.EOF) while readRemaining > 0 → errUnexpectedEOF, latched
          .ok (acc, some .ueof) { s with readErr := some .ueof }
        else
          let chunk := s.input.take n
          let data := if s.isServer then maskBytes s.maskKey s.maskPos chunk else chunk
          readAllLoop fuel (acc ++ data)
            { s with input := s.input.drop n, readRemaining := s.readRemaining - n,
                     maskPos := (s.maskPos + n) % 4 }
      else if s.readFinal then .ok (acc, none) s
      else
        match advanceFrame s with
        | .panic => .panic
        | .fail e s' => readAllLoop fuel acc { s' with readErr := some e }   -- the loop condition sees readErr
        | .ok ft s' =>
          if ft == TextMessage || ft == BinaryMessage then
            readAllLoop fuel acc { s' with readErr := some .internal }
          else readAllLoop fuel acc s'

structure Msg where
  ty : Nat
  compressed : Bool        -- NextReader wrapped the message reader in the flate reader
  data : Bytes             -- bytes of the message reader (before inflate when `compressed`)
  deriving DecidableEq, Repr

/-- `ReadMessage` = `NextReader` + `ioutil.ReadAll`: `(messageType, p, err)`; a `NextReader` error is
the monad's failure. -/
def readMessage : M (Msg × Option RErr) := fun s =>
  match nextReader s with
  | .panic => .panic
  | .fail e s => .fail e s
  | .ok ty s =>
    match readAllLoop (2 * s.input.length + 4) [] s with
    | .panic => .panic
    | .fail e s' => .fail e s'
    | .ok (data, e) s' => .ok ({ ty := ty, compressed := s.readDecompress, data := data }, e) s'

structure Trace where
  msgs : List Msg
  err : RErr
  partialLen : Nat         -- bytes handed out for the message that failed, if any
  final : RState
  deriving Repr

/-- Call `ReadMessage` until it returns an error (it always does on a finite stream). -/
def sessionLoop : Nat → RState → List Msg → Option Trace
  | 0, _, _ => none
  | fuel + 1, s, acc =>
    match readMessage s with
    | .ok (m, none) s' => sessionLoop fuel s' (acc ++ [m])
    | .ok (m, some e) s' => some { msgs := acc, err := e, partialLen := m.data.length, final := s' }
    | .fail e s' => some { msgs := acc, err := e, partialLen := 0, final := s' }
    | .panic => none

def session (s : RState) : Option Trace := sessionLoop (s.input.length + 2) s []

def init (isServer decompress : Bool) (limit : Int) (input : Bytes) : RState :=
  { isServer := isServer, decompress := decompress, readLimit := limit, input := input }

end Oryx.WsRead
