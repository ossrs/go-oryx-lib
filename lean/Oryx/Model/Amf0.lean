/-
  Model of /repo/amf0/amf0.go (as repaired by the two `fix: amf0:` commits): the AMF0 value types,
  `Size()`, `MarshalBinary`, `Discovery` + `UnmarshalBinary` (incl. `objectBase.unmarshal`, which
  advances over each child by the child's `Size()`), and the property bag's `Get`/`Set`.
  Hand-written; tied to the Go code by `corr C05` / `corr C06`; the marker constants and the
  `Discovery` dispatch table are the generated `Oryx.Gen.Amf0.*`. Core Lean only.

  Public API (reused by the RTMP packet layer):
    `Val` (num bits | bool | str | null | undef | obj ps | ecma count ps | strict ps | eof), `Props` (nil | cons k v tl)
    — a mutual pair with `DecidableEq`; `Props.length/keys/toList/ofList/append/get/has/replace/set`;
    `size : Val → Nat`, `sizeP : Props → Nat`, `utf8Size`;
    `encode : Val → Bytes`, `encodeP : Props → Bytes`, `utf8Enc`;
    `decodeVal : (fuel : Nat) → Bytes → Res (Val × Bytes)` (value, bytes after it; `fuel > length` suffices),
    `decodeProps`, `decodeElems`, `utf8Dec`, `decode : Bytes → Res (Val × Bytes)` (= `decodeVal (len+1)`);
    `wf : Val → Bool`, `wfP`, `Val.WF`, `Props.WF` (decidable);
    `walk`, `costV`, `cost`, `nest` (instrumented cost with the `Size()` re-walk charged).
  Key facts (Oryx/Proofs/Amf0*.lean): `encode_length`, `decode_sat` (ok ⇒ size ≤ len ∧ rest = drop size),
  `rtVal` (round trip at any sufficient fuel), `decode_ne_panic`, `decode_wf`.
-/
import Oryx.Base.Bytes
import Oryx.Gen.Amf0
namespace Oryx.Amf0
open Oryx Oryx.Res

/-! ### values -/

mutual
/-- An AMF0 value as the library holds it. Numbers are carried as their IEEE-754 bit pattern
(`math.Float64bits` / `Float64frombits` are bit-transparent: trusted). Strings are Go strings,
i.e. arbitrary byte sequences. `count` is the Go `uint32` field of the ECMA array. The strict array's
`count` field is not part of the value: since the repair of F6 nothing reads it (the marshaller writes
the number of properties, the decoder overwrites it), so it is unobservable through the API. -/
inductive Val where
  | num (bits : UInt64)
  | bool (b : Bool)
  | str (s : Bytes)
  | null
  | undef
  | obj (ps : Props)
  | ecma (count : Nat) (ps : Props)
  | strict (ps : Props)
  /-- `objectEOF`: what `Discovery` returns for marker 9. Reachable through the API
  (`Discovery([]byte{9})`), never produced by decoding. Not well-formed as a value. -/
  | eof
/-- The ordered property list `objectBase.properties` (keys/values in wire order). -/
inductive Props where
  | nil
  | cons (k : Bytes) (v : Val) (tl : Props)
end

mutual
def Val.beq : Val → Val → Bool
  | .num a, .num b => a == b
  | .bool a, .bool b => a == b
  | .str a, .str b => a == b
  | .null, .null => true
  | .undef, .undef => true
  | .obj a, .obj b => Props.beq a b
  | .ecma c a, .ecma d b => c == d && Props.beq a b
  | .strict a, .strict b => Props.beq a b
  | .eof, .eof => true
  | _, _ => false
def Props.beq : Props → Props → Bool
  | .nil, .nil => true
  | .cons k v t, .cons k' v' t' => k == k' && Val.beq v v' && Props.beq t t'
  | _, _ => false
end

mutual
theorem Val.beq_iff : ∀ (a b : Val), Val.beq a b = true ↔ a = b
  | .num a, b => by cases b <;> simp [Val.beq]
  | .bool a, b => by cases b <;> simp [Val.beq]
  | .str a, b => by cases b <;> simp [Val.beq]
  | .null, b => by cases b <;> simp [Val.beq]
  | .undef, b => by cases b <;> simp [Val.beq]
  | .obj a, b => by cases b <;> simp [Val.beq, Props.beq_iff a]
  | .ecma c a, b => by cases b <;> simp [Val.beq, Props.beq_iff a]
  | .strict a, b => by cases b <;> simp [Val.beq, Props.beq_iff a]
  | .eof, b => by cases b <;> simp [Val.beq]
theorem Props.beq_iff : ∀ (a b : Props), Props.beq a b = true ↔ a = b
  | .nil, b => by cases b <;> simp [Props.beq]
  | .cons k v t, b => by cases b <;> simp [Props.beq, Val.beq_iff v, Props.beq_iff t, and_assoc]
end

instance : DecidableEq Val := fun a b =>
  if h : Val.beq a b = true then isTrue ((Val.beq_iff a b).1 h)
  else isFalse (fun e => h ((Val.beq_iff a b).2 e))
instance : DecidableEq Props := fun a b =>
  if h : Props.beq a b = true then isTrue ((Props.beq_iff a b).1 h)
  else isFalse (fun e => h ((Props.beq_iff a b).2 e))

namespace Props

def length : Props → Nat
  | .nil => 0
  | .cons _ _ tl => tl.length + 1

def toList : Props → List (Bytes × Val)
  | .nil => []
  | .cons k v tl => (k, v) :: tl.toList

def ofList : List (Bytes × Val) → Props
  | [] => .nil
  | (k, v) :: tl => .cons k v (ofList tl)

def keys : Props → List Bytes
  | .nil => []
  | .cons k _ tl => k :: tl.keys

def append : Props → Props → Props
  | .nil, q => q
  | .cons k v tl, q => .cons k v (tl.append q)

/-- `objectBase.Get`: the first property with that key (Go returns `nil` when absent). -/
def get (key : Bytes) : Props → Option Val
  | .nil => none
  | .cons k v tl => if k = key then some v else tl.get key

def has (key : Bytes) : Props → Bool
  | .nil => false
  | .cons k _ tl => k == key || tl.has key

/-- The replacing loop of `objectBase.Set`: every property with that key is replaced (no `break`). -/
def replace (key : Bytes) (v : Val) : Props → Props
  | .nil => .nil
  | .cons k w tl => if k = key then .cons k v (tl.replace key v) else .cons k w (tl.replace key v)

/-- `objectBase.Set`: replace the existing key, else append at the end. -/
def set (key : Bytes) (v : Val) (ps : Props) : Props :=
  if ps.has key then ps.replace key v else ps.append (.cons key v .nil)

end Props

/-! ### markers (generated constants as bytes) -/

abbrev mNumber : UInt8 := UInt8.ofNat Gen.Amf0.markerNumber
abbrev mBoolean : UInt8 := UInt8.ofNat Gen.Amf0.markerBoolean
abbrev mString : UInt8 := UInt8.ofNat Gen.Amf0.markerString
abbrev mObject : UInt8 := UInt8.ofNat Gen.Amf0.markerObject
abbrev mNull : UInt8 := UInt8.ofNat Gen.Amf0.markerNull
abbrev mUndefined : UInt8 := UInt8.ofNat Gen.Amf0.markerUndefined
abbrev mEcmaArray : UInt8 := UInt8.ofNat Gen.Amf0.markerEcmaArray
abbrev mObjectEnd : UInt8 := UInt8.ofNat Gen.Amf0.markerObjectEnd
abbrev mStrictArray : UInt8 := UInt8.ofNat Gen.Amf0.markerStrictArray

/-! ### Size() -/

/-- `amf0UTF8.Size`. -/
def utf8Size (s : Bytes) : Nat := 2 + s.length

mutual
/-- `Amf0.Size()` of each type. -/
def size : Val → Nat
  | .num _ => 1 + 8
  | .bool _ => 2
  | .str s => 1 + utf8Size s
  | .null => 1
  | .undef => 1
  | .obj ps => 1 + 3 + sizeP ps
  | .ecma _ ps => 1 + 4 + 3 + sizeP ps
  | .strict ps => 1 + 4 + sizeP ps
  | .eof => 3
/-- `objectBase.Size()`: sum over the current properties. -/
def sizeP : Props → Nat
  | .nil => 0
  | .cons k v tl => utf8Size k + size v + sizeP tl
end

/-! ### MarshalBinary -/

/-- `amf0UTF8.MarshalBinary`: `uint16(len)` big-endian (truncating, as Go does) in a zeroed buffer of
`Size()` bytes; the string is copied in only `if size > 0`, so a string whose length is a non-zero
multiple of 65536 is written as zeros (outside the well-formed domain, modelled as the code behaves). -/
def utf8Enc (s : Bytes) : Bytes :=
  be 2 s.length ++ (if s.length % 65536 = 0 then List.replicate s.length 0 else s)

/-- `objectEOF.MarshalBinary`. -/
def eofBytes : Bytes := [0, 0, 9]

mutual
/-- `MarshalBinary` of each type. The strict array writes the number of its properties as count
(repair of F6). -/
def encode : Val → Bytes
  | .num b => mNumber :: be 8 b.toNat
  | .bool b => [mBoolean, if b then 1 else 0]
  | .str s => mString :: utf8Enc s
  | .null => [mNull]
  | .undef => [mUndefined]
  | .obj ps => mObject :: (encodeP ps ++ eofBytes)
  | .ecma c ps => mEcmaArray :: (be 4 c ++ (encodeP ps ++ eofBytes))
  | .strict ps => mStrictArray :: (be 4 ps.length ++ encodeP ps)
  | .eof => eofBytes
/-- `objectBase.marshal`: key, value, key, value … in list order. -/
def encodeP : Props → Bytes
  | .nil => []
  | .cons k v tl => utf8Enc k ++ (encode v ++ encodeP tl)
end

/-! ### Discovery + UnmarshalBinary -/

/-- `amf0UTF8.UnmarshalBinary(p)` followed by the caller's `p = p[u.Size():]`
(never out of range: the length was checked). Returns the string and the bytes after it. -/
def utf8Dec (p : Bytes) : Res (Bytes × Bytes) :=
  if p.length < 2 then err .generic else
  if (p.drop 2).length < ofBE (p.take 2) then err .generic else
  ok ((p.drop 2).take (ofBE (p.take 2)), (p.drop 2).drop (ofBE (p.take 2)))

/-- `Number.UnmarshalBinary`. -/
def numberDec (p : Bytes) : Res (Val × Bytes) :=
  if p.length < 9 then err .generic else
  match p with
  | m :: q => if m ≠ mNumber then err .generic else ok (.num (UInt64.ofNat (ofBE (q.take 8))), q.drop 8)
  | [] => err .generic

/-- `Boolean.UnmarshalBinary`: any non-zero byte is `true`. -/
def booleanDec (p : Bytes) : Res (Val × Bytes) :=
  match p with
  | m :: b :: q => if m ≠ mBoolean then err .generic else ok (.bool (b != 0), q)
  | _ => err .generic

/-- `String.UnmarshalBinary`. -/
def stringDec (p : Bytes) : Res (Val × Bytes) :=
  match p with
  | m :: q =>
    if m ≠ mString then err .generic else do
      let (s, r) ← utf8Dec q
      pure (.str s, r)
  | [] => err .generic

/-- `singleMarkerObject.UnmarshalBinary` for target marker `t`. -/
def singleDec (t : UInt8) (v : Val) (p : Bytes) : Res (Val × Bytes) :=
  match p with
  | m :: q => if m ≠ t then err .generic else ok (v, q)
  | [] => err .generic

/-- `objectEOF.UnmarshalBinary`. -/
def eofDec (p : Bytes) : Res (Val × Bytes) :=
  match p with
  | a :: b :: c :: q => if a ≠ 0 ∨ b ≠ 0 ∨ c ≠ 9 then err .generic else ok (.eof, q)
  | _ => err .generic

mutual
/-- `Discovery(p)` then `UnmarshalBinary(p)` on the fresh value. Returns the value and the bytes
after the last byte its decoder looked at as part of the value (the decoder's own cursor).
`fuel` bounds the recursion depth + loop iterations; `fuel > p.length` is always enough
(`decodeVal_sat`, `decode_ne_panic`). -/
def decodeVal : Nat → Bytes → Res (Val × Bytes)
  | 0, _ => .panic
  | fuel+1, p =>
    match p with
    | [] => err .generic                                   -- Discovery: require 1 byte
    | m :: q =>
      match Gen.Amf0.discovery m.toNat with
      | .NewNumber => numberDec p
      | .NewBoolean => booleanDec p
      | .NewString => stringDec p
      | .NewNull => singleDec mNull .null p
      | .NewUndefined => singleDec mUndefined .undef p
      | .objectEOF => eofDec p
      | .rejected => err .generic
      | .NewObject =>
        if m ≠ mObject then err .generic else do
          let (ps, r) ← decodeProps fuel q
          pure (.obj ps, r)
      | .NewEcmaArray =>
        if p.length < 5 then err .generic else
        if m ≠ mEcmaArray then err .generic else do
          let (ps, r) ← decodeProps fuel (q.drop 4)
          pure (.ecma (ofBE (q.take 4)) ps, r)
      | .NewStrictArray =>
        if p.length < 5 then err .generic else
        if m ≠ mStrictArray then err .generic else
        if ofBE (q.take 4) = 0 then ok (.strict .nil, q.drop 4) else do  -- `int(v.count) <= 0` (64-bit)
          let (ps, r) ← decodeElems fuel (ofBE (q.take 4)) (q.drop 4)
          pure (.strict ps, r)
/-- `objectBase.unmarshal(p, eof = true, -1)`: properties until the empty key followed by marker 9.
Each property is appended (repair of F5), and the cursor advances by the child's `Size()`. -/
def decodeProps : Nat → Bytes → Res (Props × Bytes)
  | 0, _ => .panic
  | fuel+1, p => do
    let (k, p1) ← utf8Dec p                                 -- readOne: prop name
    match p1 with
    | [] => err .generic                                    -- Discovery: require 1 byte
    | m :: q =>                                             -- (a rejected marker fails in decodeVal below)
      if k.length = 0 ∧ Gen.Amf0.discovery m.toNat = .objectEOF then ok (.nil, q)  -- `p = p[1:]`
      else do
        let (a, _) ← decodeVal fuel p1                      -- pushOne: a.UnmarshalBinary(p)
        let p2 ← sliceFrom p1 (size a)                      -- p = p[a.Size():]
        let (tl, r) ← decodeProps fuel p2
        pure (.cons k a tl, r)
/-- `objectBase.unmarshal(p, eof = false, maxElems = n)`: `for len(v.properties) < maxElems`. -/
def decodeElems : Nat → Nat → Bytes → Res (Props × Bytes)
  | _, 0, p => ok (.nil, p)
  | 0, _+1, _ => .panic
  | fuel+1, n+1, p => do
    let (k, p1) ← utf8Dec p
    let (a, _) ← decodeVal fuel p1                          -- Discovery + UnmarshalBinary
    let p2 ← sliceFrom p1 (size a)
    let (tl, r) ← decodeElems fuel n p2
    pure (.cons k a tl, r)
end

/-- Top level: `Discovery(bs)` + `UnmarshalBinary(bs)`; the second component is what follows the
bytes the decoder consumed. -/
def decode (bs : Bytes) : Res (Val × Bytes) := decodeVal (bs.length + 1) bs

/-! ### well-formedness (the domain of the round-trip property) -/

mutual
/-- Strings and keys at most 65535 bytes, ECMA count a `uint32`, number of strict-array elements a
`uint32`, no `objectEOF` used as a value. Repeated keys are allowed (the repaired decoder keeps them). -/
def wf : Val → Bool
  | .num _ => true
  | .bool _ => true
  | .str s => decide (s.length ≤ 65535)
  | .null => true
  | .undef => true
  | .obj ps => wfP ps
  | .ecma c ps => decide (c < 4294967296) && wfP ps
  | .strict ps => decide (ps.length < 4294967296) && wfP ps
  | .eof => false
def wfP : Props → Bool
  | .nil => true
  | .cons k v tl => decide (k.length ≤ 65535) && wf v && wfP tl
end

def Val.WF (v : Val) : Prop := wf v = true
def Props.WF (ps : Props) : Prop := wfP ps = true
instance (v : Val) : Decidable v.WF := inferInstanceAs (Decidable (wf v = true))
instance (ps : Props) : Decidable ps.WF := inferInstanceAs (Decidable (wfP ps = true))

/-! ### instrumented cost (C07 / K3) -/

mutual
/-- Number of values `Size()` visits (one unit per value and per property key). -/
def walk : Val → Nat
  | .obj ps => 1 + walkP ps
  | .ecma _ ps => 1 + walkP ps
  | .strict ps => 1 + walkP ps
  | _ => 1
def walkP : Props → Nat
  | .nil => 0
  | .cons _ v tl => 1 + walk v + walkP tl
end

mutual
/-- Cost of decoding the encoding of `v`: one unit per value and key read, plus — charged explicitly —
what the container decoder pays to advance past each child after decoding it: the `a.Size()` re-walk
of the whole child (`walk a`) when `rewalk`, one unit when the child reports what it consumed. -/
def costV (rewalk : Bool) : Val → Nat
  | .obj ps => 1 + costP rewalk ps
  | .ecma _ ps => 1 + costP rewalk ps
  | .strict ps => 1 + costP rewalk ps
  | _ => 1
def costP (rewalk : Bool) : Props → Nat
  | .nil => 0
  | .cons _ v tl => 1 + costV rewalk v + (if rewalk then walk v else 1) + costP rewalk tl
end

/-- Cost of a successful decode of `bs` (0 when it does not decode), for the decoder the source has
NOW (`Gen.Amf0.childAdvanceIsConstant` is regenerated from amf0.go on every run). -/
def cost (bs : Bytes) : Nat :=
  match decode bs with
  | .ok (v, _) => costV (!Gen.Amf0.childAdvanceIsConstant) v
  | _ => 0

/-- `d` objects nested in each other under key `k` around `v` (the adversarial family of K3). -/
def nest (k : Bytes) : Nat → Val → Val
  | 0, v => v
  | d+1, v => .obj (.cons k (nest k d v) .nil)

end Oryx.Amf0
