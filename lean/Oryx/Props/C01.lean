/-
  C01 — RTMP session: every message written is read back identically.
  Statements only; proofs are in Oryx/Proofs/Rtmp/{Reader,Session}.lean.
-/
import Oryx.Proofs.Rtmp.Session
namespace Oryx.Props.C01
open Oryx Oryx.Res Oryx.Rtmp

/-! Gating obligations on the regenerated tables: the model's header sizes, the extended-timestamp
threshold, the default chunk size and the control-message type ids are what the Go source says now. -/
example : Gen.Rtmp.messageHeaderSizes = [11, 7, 3, 0] := by decide
example : Gen.Rtmp.extendedTimestamp = 0xFFFFFF := by decide
example : Gen.Rtmp.defaultChunkSize = 128 := by decide
example : (Gen.Rtmp.MessageTypeSetChunkSize, Gen.Rtmp.MessageTypeUserControl,
           Gen.Rtmp.MessageTypeWindowAcknowledgementSize) = (1, 4, 5) := by decide
example : Gen.Rtmp.writerFollowsOwnSetChunkSize = true := by decide

/-- The domain of the property: chunk stream 2..63 (the ids the writer can put in a 1-byte basic
header), timestamp below 2^31, non-empty payload below 2^24, well-formed bodies for the
protocol-control types the reader itself decodes, Set Chunk Size ≥ 1. -/
def MsgOK (m : Msg) : Prop := m.WF ∧ m.ChunkSizeOK

/-- The reader's header parser inverts the writer's type-0 header for every well-formed message —
including `ts ∈ {0xFFFFFE, 0xFFFFFF, 0x1000000, 2^31−1}` by the general proof, not by cases. -/
theorem c0_parse (c : ChunkStream) (m : Msg) (hm : m.WF) (hc : c.msg = none) (hcid : c.hdr.cid = m.hdr.cid)
    (rest : Bytes) :
    readBasicHeader (c0Header m ++ rest) = ok ((0, m.hdr.cid), (c0Header m).tail ++ rest) ∧
    readMessageHeader c 0 ((c0Header m).tail ++ rest)
      = ok ({ c with hdr := hdrOf m, msg := some { hdr := hdrOf m, payload := [] },
                     count := c.count + 1, extTs := decide (m.hdr.ts ≥ Gen.Rtmp.extendedTimestamp) }, rest) :=
  readHeader_written (first := true) (pre := []) hm ⟨hcid, hc, rfl⟩ rest

/-- … and the type-3 continuation header (with the repeated extended timestamp). -/
theorem c3_parse (c : ChunkStream) (m : Msg) (hm : m.WF) (pre : Bytes)
    (hmsg : c.msg = some { hdr := hdrOf m, payload := pre }) (hh : c.hdr = hdrOf m)
    (hext : c.extTs = decide (m.hdr.ts ≥ Gen.Rtmp.extendedTimestamp)) (hcount : c.count ≠ 0) (rest : Bytes) :
    readBasicHeader (c3Header m ++ rest) = ok ((3, m.hdr.cid), (c3Header m).tail ++ rest) ∧
    readMessageHeader c 3 ((c3Header m).tail ++ rest) = ok ({ c with count := c.count + 1 }, rest) := by
  have h := readHeader_written (first := false) hm ⟨hh ▸ rfl, hmsg, hh, hext, hcount⟩ rest
  refine ⟨h.1, h.2.trans ?_⟩
  rw [hmsg, hh, hext]
  rfl

/-- The writer's chunk loop terminates for every chunk size ≥ 1 and every payload (with chunk size 0
the Go loop spins forever: that value is outside the property's `[1, 2^31−1]`). -/
theorem writer_terminates (c : Nat) (hc : 1 ≤ c) (m : Msg) : ∃ W, writeMessage c m = ok W :=
  writeChunks_ok c hc m _ true _ (Nat.le_refl _)

/-- One message, any chunk size `c ≥ 1`, any payload length (all of `k·c−1, k·c, k·c+1, 65535, 65536,
2^24−1` by the general induction), any following bytes. -/
theorem write_read_one (c : Nat) (hc : 1 ≤ c) (m : Msg) (hm : m.WF) (st : Reader) (hic : st.inChunk = c)
    (hclean : Clean st) (rest : Bytes) :
    ∃ W st', writeMessage c m = ok W ∧ readMessage st (W ++ rest) = ok ((received m, st'), rest) ∧
      (received m).view = m.view ∧ Clean st' ∧ st'.inChunk = outChunkAfter c m := by
  obtain ⟨W, st', h1, h2, h3, h4⟩ := Rtmp.write_read_one c hc m hm st hic hclean rest
  exact ⟨W, st', h1, h2, rfl, h3, h4⟩

/-- The simple handshake: each side writes 1 + 1536 + 1536 = 3073 bytes and the reads consume exactly
those, leaving the chunk stream untouched. -/
theorem handshake_lengths (c1tail peerC1 rest : Bytes) (h1 : c1tail.length = 1528) (h2 : peerC1.length = 1536) :
    (hsWrite c1tail peerC1).length = 3073 ∧
    (do let (c0, bs) ← hsReadC0 (hsWrite c1tail peerC1 ++ rest)
        let (c1, bs) ← hsReadC1 bs
        let (c2, bs) ← hsReadC2 bs
        pure (c0, c1, c2, bs) : Res (Bytes × Bytes × Bytes × Bytes))
      = ok ([3], List.replicate 8 0 ++ c1tail, peerC1, rest) :=
  ⟨by simp [hsWrite, h1, h2], hsRead_hsWrite c1tail peerC1 rest h1 h2 fun c0 c1 c2 bs => pure (c0, c1, c2, bs)⟩

/-- **C01**: after the handshake, whatever finite sequence of well-formed messages one endpoint writes
— any types, stream ids, timestamps below 2^31, payload lengths below 2^24, a Set Chunk Size with any
value ≥ 1 at any position — the peer's reader (default chunk size, no partial message) returns exactly
that sequence: same chunk stream, type, stream id, timestamp and payload, in order, and leaves
whatever follows untouched. The model reader is a function of the joined byte stream, so the result
is the same for every segmentation of the transport into reads (that bufio.Reader / io.ReadFull
realise this is trusted and exercised by the correspondence run with 1-byte reads).
Both directions of a duplex session are two independent instances of this theorem. -/
theorem C01_session (c1tail peerC1 : Bytes) (h1 : c1tail.length = 1528) (h2 : peerC1.length = 1536)
    (msgs : List Msg) (hall : ∀ m ∈ msgs, MsgOK m) (rest : Bytes) :
    ∃ W st', writeAll Gen.Rtmp.defaultChunkSize msgs = ok W ∧
      (do let (_, bs) ← hsReadC0 (hsWrite c1tail peerC1 ++ (W ++ rest))
          let (_, bs) ← hsReadC1 bs
          let (_, bs) ← hsReadC2 bs
          readMessages msgs.length {} bs : Res ((List Msg × Reader) × Bytes))
        = ok ((msgs.map received, st'), rest) ∧
      (msgs.map received).map Msg.view = msgs.map Msg.view := by
  obtain ⟨W, st', hw, hr, _⟩ := session msgs hall Gen.Rtmp.defaultChunkSize {} rest (by decide) rfl (clean_fresh _)
  refine ⟨W, st', hw, ?_, by simp [List.map_map, Function.comp_def, view_received]⟩
  exact (hsRead_hsWrite c1tail peerC1 (W ++ rest) h1 h2 fun _ _ _ bs => readMessages msgs.length {} bs).trans hr

/-- Same statement for an arbitrary point of a session: any current chunk size, any reader state
without a partial message. -/
theorem C01_session_from (msgs : List Msg) (hall : ∀ m ∈ msgs, MsgOK m)
    (c : Nat) (st : Reader) (rest : Bytes) (hc : 1 ≤ c) (hic : st.inChunk = c) (hcl : Clean st) :
    ∃ W st', writeAll c msgs = ok W ∧
      readMessages msgs.length st (W ++ rest) = ok ((msgs.map received, st'), rest) ∧ Clean st' :=
  session msgs hall c st rest hc hic hcl

/-- Duplex: ONE endpoint (one `Protocol`) that writes its own messages and reads the peer's in ANY interleaving
puts on the wire exactly what a write-only endpoint would for the same messages, and delivers exactly what a
read-only endpoint would from the same incoming bytes: what it announces with Set Chunk Size governs only what it
writes, what it receives governs only how it reads. Together with `C01_session` (applied once per direction) this
is the round trip of a two-way session in which both sides announce chunk sizes at any point. (Tied to the code by
the duplex sessions of the correspondence run: there the two activities share one `rtmp.Protocol`.) -/
theorem C01_duplex (acts : List EAct) (e : Endpoint) (inb W : Bytes) (ms : List Msg) (rd' : Reader) (rest : Bytes)
    (hw : writeAll e.out (writesOf acts) = ok W)
    (hr : readMessages (readsOf acts) e.rd inb = ok ((ms, rd'), rest)) :
    e.run inb acts = ok (({ rd := rd', out := outAfterAll e.out (writesOf acts) }, W), (ms, rest)) :=
  Endpoint.run_eq acts e inb W ms rd' rest hw hr

/-- Why the writer must follow its own announcement (defect F3, repaired): a writer that keeps the
old chunk size after announcing a new one is NOT read back — concrete witness: Set Chunk Size 2, then
a 3-byte message still written as one 128-byte chunk. -/
def staleWire : Bytes :=
  -- SetChunkSize(2) on cid 2, then cid 5 type 9 payload AA BB CC written with the stale size 128
  [0x02, 0,0,0, 0,0,4, 1, 0,0,0,0, 0,0,0,2,
   0x05, 0,0,0, 0,0,3, 9, 1,0,0,0, 0xAA, 0xBB, 0xCC]

theorem stale_writer_witness :
    (match readMessages 2 {} staleWire with
     | .ok ((ms, _), _) => ms.map (·.payload) == [[0, 0, 0, 2], [0xAA, 0xBB, 0xCC]]
     | _ => false) = false := by
  decide +kernel

/-! ### non-vacuity -/

/-- A 300-byte video message at `ts = 0xFFFFFF` (extended timestamp in C0 and both C3 headers). -/
def exVideo : Msg := { hdr := { cid := 7, ty := 9, sid := 1, ts := 0xFFFFFF }, payload := List.replicate 300 0x17 }
def exSetChunk : Msg := { hdr := { cid := 2, ty := 1, sid := 0, ts := 0 }, payload := [0, 0, 0, 7] }

theorem exVideo_ok : MsgOK exVideo := by
  refine ⟨⟨by decide, by decide, by decide, by simp [exVideo, -List.reduceReplicate], by simp [exVideo, -List.reduceReplicate], by decide, by decide, ?_⟩, ?_⟩
  · refine ⟨?_, ?_, ?_⟩ <;> intro h <;> exact absurd h (by decide)
  · intro h; exact absurd h (by decide)

theorem exSetChunk_ok : MsgOK exSetChunk := by
  refine ⟨⟨by decide, by decide, by decide, by decide, by decide, by decide, by decide, ?_⟩, ?_⟩
  · refine ⟨?_, ?_, ?_⟩
    · intro _; decide
    · intro h; exact absurd h (by decide)
    · intro h; exact absurd h (by decide)
  · intro _; decide

example : ∀ m ∈ [exSetChunk, exVideo], MsgOK m := by
  intro m hm
  simp at hm
  rcases hm with rfl | rfl
  · exact exSetChunk_ok
  · exact exVideo_ok

/-- The example session on the wire: after Set Chunk Size 7 the 300-byte message takes 43 chunks. -/
example : (writeAll 128 [exSetChunk, exVideo]).isOk = true := by decide +kernel

/-- `C01_duplex` on a concrete schedule: the endpoint announces chunk size 7, reads a 300-byte message the peer
wrote with the default size 128, then writes the same message itself — in 7-byte chunks, while what it read came in
128-byte chunks. -/
example :
    (match writeAll 128 [exVideo] with
     | .ok peer =>
       (match Endpoint.run {} peer [.write exSetChunk, .read, .write exVideo] with
        | .ok ((e, w), (ms, rest)) =>
          e.out == 7 && e.rd.inChunk == 128 && ms.map (·.payload) == [exVideo.payload] && rest == [] &&
          decide (ok w = writeAll 128 [exSetChunk, exVideo])
        | _ => false)
     | _ => false) = true := by decide +kernel

end Oryx.Props.C01
