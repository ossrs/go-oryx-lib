/-
  C15 — concurrent control frames never corrupt the websocket frame stream.
  Only property statements, their proofs from `Oryx.Proofs.WsConc`, the gating obligations on the
  structural facts extracted from the Go source, and non-vacuity examples.
  Model: `Oryx.WsConc` (small-step system: lock, latch, transport, any number of senders, a closer).
-/
import Oryx.Proofs.WsConc
namespace Oryx.Props.C15
open Oryx Oryx.WsConc

/-! ### gating obligations: the step shapes of the model are those of the current source -/

example : Gen.Websocket.allConnWritesUnderMu = true := by decide
example : Gen.Websocket.writeErrCheckedUnderMuBeforeWrite = true := by decide
example : Gen.Websocket.closeLatchSetBeforeRelease = true := by decide
example : Gen.Websocket.dataFrameBuffersWrittenInOneLockHold = true := by decide

theorem gen_facts : genFacts = Facts.allTrue :=
  genFacts_allTrue_of (by decide) (by decide) (by decide) (by decide)

/-- **C15_wire.** In every state reachable under ANY interleaving of any number of sender threads
(one of them the data writer, with one- and two-buffer frames), lock-acquisition timeouts, transport
failures after any prefix and the closer:
* the wire is the concatenation of WHOLE frames followed by at most one frame in progress;
* a non-empty frame in progress exists only while its writer holds `mu` and is inside its transport
  writes, or after a transport failure cut it (then the latch is `failed` and nothing follows);
  hence a control frame never lands inside a data frame;
* each sender's completed frames appear in the sender's program order, and are frames of its program. -/
theorem C15_wire (s0 s : Sys) (h0 : Init s0) (h : Reach genFacts s0 s) :
    s.wire = (s.done.map (·.2)).flatten ++ s.cur ∧
    (s.cur ≠ [] → (∃ t k, s.mu = some t ∧ (s.threads t).pc = .writing k) ∨ s.latch = some .failed) ∧
    (∀ t, (s.done.filter (fun p => p.1 == t)).map (·.2) = (s.threads t).okFrames ∧
          List.Sublist (s.threads t).okFrames ((s.threads t).prog.map Job.bytes)) := by
  rw [gen_facts] at h
  have inv := reach_inv (init_inv s0 h0) h
  refine ⟨inv.wire, ?_, fun t => ⟨inv.proj t, ?_⟩⟩
  · intro hc
    by_cases hw : ∃ t k, (s.threads t).pc = .writing k
    · obtain ⟨t, k, hk⟩ := hw
      exact Or.inl ⟨t, k, inv.holder t (by rw [hk]; intro h; cases h), hk⟩
    · rcases inv.curIdle (fun t k hk => hw ⟨t, k, hk⟩) with h | h
      · exact absurd h hc
      · exact Or.inr h
  · exact (inv.order t).trans (List.Sublist.map _ (List.take_sublist _ _))

/-- **after_close.** Once a Close frame has been completed on the wire the latch is set, and from then
on — under every continuation of the schedule — the wire never grows, no frame is ever completed
again, no thread enters its transport writes (each attempt takes the `latchErr` step, i.e. returns
the latched `ErrCloseSent`), and the latch stays. -/
theorem after_close (s0 s s' : Sys) (h0 : Init s0) (h : Reach genFacts s0 s) (hc : s.closeDone = true)
    (h' : Reach genFacts s s') :
    s.latch ≠ none ∧ s'.wire = s.wire ∧ s'.done = s.done ∧ s'.latch = s.latch ∧
    (∀ t, (s'.threads t).okFrames = (s.threads t).okFrames) ∧ (∀ t k, (s'.threads t).pc ≠ .writing k) := by
  rw [gen_facts] at h h'
  have inv := reach_inv (init_inv s0 h0) h
  have hl := inv.closeLatch hc
  obtain ⟨fz, inv'⟩ := frozen_reach inv hl h'
  exact ⟨hl, fz.wire, fz.done, fz.latch, fz.okFrames, inv'.frozen (fz.latch ▸ hl)⟩

/-- The same freeze after a transport failure (the `failed` latch): what is on the wire then is whole
frames plus the cut one, and it never changes again. -/
theorem after_failure (s0 s s' : Sys) (h0 : Init s0) (h : Reach genFacts s0 s) (hl : s.latch ≠ none)
    (h' : Reach genFacts s s') : s'.wire = s.wire ∧ s'.latch = s.latch := by
  rw [gen_facts] at h h'
  have fz := (frozen_reach (reach_inv (init_inv s0 h0) h) hl h').1
  exact ⟨fz.wire, fz.latch⟩

/-- **accepts_sound.** The acceptance test the correspondence driver applies to every wire it observes
(`wsconc.accepts`) only accepts a concatenation of WHOLE frames, each one a frame of one of the senders,
optionally followed by a proper prefix of a frame whose write failed — the shape `C15_wire` gives. A
control frame inside a data frame is therefore rejected. -/
theorem accepts_is_sound (wire : Bytes) (senders : List Sender) (partials : List Bytes)
    (h : accepts wire senders partials = true) :
    ∃ (frames : List Bytes) (p : Bytes), wire = frames.flatten ++ p ∧
      (∀ f ∈ frames, ∃ s ∈ senders, f ∈ s.frames) ∧
      (p = [] ∨ ∃ f ∈ partials, p.length < f.length ∧ f.take p.length = p) :=
  accepts_sound wire senders partials h

/-! ### non-vacuity: a concrete system and a reachable interleaving -/

def ping : Job := { bufs := [[0x89, 0x00]], isClose := false }
def dataFrame : Job := { bufs := [[0x82, 0x03], [1, 2, 3]], isClose := false }   -- header+payload, `extra`
def closeJob : Job := { bufs := [[0x88, 0x00]], isClose := true }

def sys0 : Sys :=
  { mu := none, latch := none, wire := [], isOpen := true, done := [], cur := [], closeDone := false,
    threads := fun t => { prog := if t = 0 then [dataFrame] else if t = 1 then [ping, closeJob] else [],
                          pos := 0, pc := .idle, okFrames := [] } }

example : Init sys0 := ⟨rfl, rfl, rfl, rfl, rfl, rfl, fun _ => ⟨rfl, rfl, rfl⟩⟩

/-- thread 1 gets the lock first: one step of a real interleaving. -/
example : ∃ s, Step genFacts sys0 s ∧ s.mu = some 1 :=
  ⟨_, Step.acquire sys0 1 ping rfl rfl rfl, rfl⟩

/-- the bad shapes are really excluded by the facts, not by the model: with a fact false the step exists. -/
example : ∃ s, Step { Facts.allTrue with allConnWritesUnderMu := false } sys0 s ∧ s.mu = none ∧
    (s.threads 0).pc = .writing 0 :=
  ⟨_, Step.badNoLock sys0 0 dataFrame rfl rfl rfl, rfl, by simp⟩

/-- the acceptance test used by the correspondence driver, on an interleaving and on a torn frame -/
example : accepts [0x89, 0x00, 0x82, 0x03, 1, 2, 3, 0x88, 0x00]
    [⟨[dataFrame.bytes], true⟩, ⟨[ping.bytes, closeJob.bytes], true⟩] [] = true := by decide
example : accepts [0x82, 0x03, 0x89, 0x00, 1, 2, 3] [⟨[dataFrame.bytes], true⟩, ⟨[ping.bytes], true⟩] [] = false := by decide

end Oryx.Props.C15
