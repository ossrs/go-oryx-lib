/-
  C04 — RTMP request/response matching holds with concurrent reader and writer.
  Statements only; the invariant is in Oryx/Proofs/RtmpTxn.lean.
-/
import Oryx.Proofs.RtmpTxn
namespace Oryx.Props.C04
open Oryx Oryx.RtmpTxn Gen.Rtmp

/-! Gating obligations on the facts extracted from the CURRENT source (rtmp/rtmp.go):
the request is registered before it can reach the transport; registration, and lookup+delete, are
each done under the one mutex; nothing else touches the table. The model's step shapes (atomic `reg`,
atomic `resp`) are justified by exactly these facts. -/
example : Gen.Rtmp.txnOrder = .registerThenWrite := by decide
example : Gen.Rtmp.txnRegisterUnderLock = true := by decide
example : Gen.Rtmp.txnLookupDeleteUnderOneLock = true := by decide
example : Gen.Rtmp.txnOtherAccessors = [] := by decide

/-- **C04**: for every sequence of requests with distinct transaction ids and EVERY interleaving of the
writer's steps with the reader's processing of responses (a response is processed only after its
request was handed to the transport — including "the peer answers before the writer's call has
returned"), in every reachable state: no spurious "no matched request"; every response processed so
far was matched to its request; no response was matched twice; and nothing is lost — every request on
the wire is either still outstanding in the table or already matched. -/
theorem C04_matching (reqs : List Nat) (hnd : reqs.Nodup) (acts : List Act) (s : St)
    (hr : run (init Gen.Rtmp.txnOrder reqs) acts = some s) :
    s.failed = [] ∧ s.matched = s.responded ∧ s.matched.Nodup ∧
    (∀ t ∈ s.wire, t ∈ s.table ∨ t ∈ s.matched) ∧ (∀ t ∈ s.matched, t ∈ s.wire) := by
  have hg := good_run acts (good_init reqs) hr
  refine ⟨hg.failed_nil, hg.matched_eq, hg.matched_eq ▸ hg.responded_nodup, ?_, ?_⟩
  · intro t ht; rw [hg.matched_eq]; exact hg.wire_ok ht
  · intro t ht; rw [hg.matched_eq] at ht; exact hg.responded_on_wire t ht

/-- … and the next response to arrive, whichever it is, is matched: in every reachable state the
reader's step for any request that is on the wire and not yet answered succeeds as a match. -/
theorem C04_next_response_matches (reqs : List Nat) (hnd : reqs.Nodup) (acts : List Act) (s : St)
    (hr : run (init Gen.Rtmp.txnOrder reqs) acts = some s) (t : Nat) (hw : t ∈ s.wire) (hn : t ∉ s.responded) :
    ∃ s', step s (.r t) = some s' ∧ s'.failed = [] ∧ t ∈ s'.matched := by
  have hg := good_run acts (good_init reqs) hr
  have htab : t ∈ s.table := (hg.wire_ok hw).resolve_right hn
  exact ⟨{ s with table := s.table.erase t, responded := t :: s.responded, matched := t :: s.matched },
    by simp [step, hw, hn, htab], hg.failed_nil, by simp⟩

/-- Responses nobody is waiting for — answers to calls the library does not track, duplicated or stray
`_result`s — are refused at any point of any schedule and change nothing: the table and everything matched so
far stay as they were (so they cannot make a later genuine response fail). -/
theorem C04_stray_refused (s : St) (t : Nat) (ht : t ∉ s.table) :
    ∃ s', step s (.stray t) = some s' ∧ s'.table = s.table ∧ s'.matched = s.matched ∧ s'.failed = s.failed ∧
      s'.wire = s.wire ∧ s'.prog = s.prog ∧ s'.refused = t :: s.refused :=
  ⟨{ s with refused := t :: s.refused }, by simp [step, ht], rfl, rfl, rfl, rfl, rfl, rfl⟩

/-- The window of the old order (defect F4, repaired): with write-then-register, the schedule
*write; peer answers; lookup* reaches "No matched request" although the request had been sent. -/
theorem C04_window_witness :
    (run (init .writeThenRegister [7]) [.w, .r 7, .w]).map (·.failed) = some [7] := by
  decide

/-- The same schedule is harmless in the repaired order (it is not even enabled before the write). -/
theorem C04_window_closed :
    (run (init .registerThenWrite [7]) [.w, .w, .r 7]).map (fun s => (s.failed, s.matched)) = some ([], [7]) ∧
    run (init .registerThenWrite [7]) [.w, .r 7] = none := by
  decide

/-! ### non-vacuity: a 3-request schedule where the peer answers inside the writer's calls -/
example : (run (init .registerThenWrite [1, 2, 3]) [.w, .w, .r 1, .w, .w, .w, .w, .r 3, .r 2]).map
    (fun s => (s.failed, s.matched, s.table)) = some ([], [2, 3, 1], []) := by decide
example : ([1, 2, 3] : List Nat).Nodup := by decide
-- strays interleaved: requests 1 (connect) and 4 (createStream) tracked; answers to 2, 3 and a repeated 1 refused
example : (run (init .registerThenWrite [1, 4]) [.w, .w, .w, .w, .stray 2, .stray 3, .r 1, .stray 1, .r 4]).map
    (fun s => (s.failed, s.matched, s.refused)) = some ([], [4, 1], [1, 3, 2]) := by decide

end Oryx.Props.C04
