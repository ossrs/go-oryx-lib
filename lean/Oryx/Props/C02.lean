/-
  C02 — RTMP reader decodes every spec-conformant chunk stream.
  Statements only; proofs are in Oryx/Proofs/Rtmp/{Reader,Refine,AbsExt}.lean. The specification side
  (`Conformant`, `specBytes`, `specMessages`, …) is Oryx/Spec/RtmpChunk.lean, written from RTMP 1.0 §5.3
  and independent of the reader model (Oryx/Model/Rtmp.lean).
-/
import Oryx.Proofs.Rtmp.AbsExt
namespace Oryx.Props.C02
open Oryx Oryx.Res Oryx.Rtmp Oryx.Spec.RtmpChunk

/-! Gating obligations on the regenerated tables / constants the reader model uses. -/
example : Gen.Rtmp.messageHeaderSizes = [11, 7, 3, 0] := by decide
example : Gen.Rtmp.extendedTimestamp = 0xFFFFFF := by decide
example : Gen.Rtmp.defaultChunkSize = 128 := by decide
example : Gen.Rtmp.chunkIDProtocolControl = 2 := by decide
example : (Gen.Rtmp.MessageTypeSetChunkSize, Gen.Rtmp.MessageTypeAbort, Gen.Rtmp.MessageTypeUserControl,
           Gen.Rtmp.MessageTypeWindowAcknowledgementSize) = (1, 2, 4, 5) := by decide
example : (Gen.Rtmp.EventTypeSetBufferLength, Gen.Rtmp.EventTypeFmsEvent0) = (3, 26) := by decide
/-- gate: the chunk size (and window) the reader applies to the peer's stream is state of `readChunk` / `readMessage`
only — the model's `Reader`; the exported message -> packet helper `DecodeMessage`, which applications call on messages
they hold at any later time, assigns nothing there (in the model it is a pure function of the message). -/
example : Gen.Rtmp.decodeMessageLeavesReaderSettings = true := by decide

/-! ### basic header -/

/-- All three basic-header forms of §5.3.1.1 — 1 byte for chunk streams 2..63, 2 bytes for 64..319,
3 bytes for 64..65599 — decode to the format and the chunk stream id the specification assigns
(false for the 3-byte form before fix F1). -/
theorem basic_header_forms (fmt cid form : Nat) (hf : fmt ≤ 3) (hl : FormLegal cid form) (rest : Bytes) :
    readBasicHeader (basicHeader fmt cid form ++ rest) = ok ((fmt, cid), rest) :=
  readBasicHeader_spec fmt cid form hf hl rest

example : FormLegal 2 1 ∧ FormLegal 63 1 ∧ FormLegal 64 2 ∧ FormLegal 319 2 ∧ FormLegal 64 3 ∧ FormLegal 319 3 ∧
    FormLegal 320 3 ∧ FormLegal 65599 3 ∧ ¬ FormLegal 64 1 ∧ ¬ FormLegal 320 2 ∧ ¬ FormLegal 65600 3 ∧ ¬ FormLegal 1 1 := by
  decide

/-- F1 regression: `01 00 01` is chunk stream 64 + 0 + 1·256 = 320. -/
example : readBasicHeader [0x01, 0x00, 0x01, 0xAA] = ok ((0, 320), [0xAA]) := by decide +kernel

/-! ### reject rules (for EVERY reader state — no invariant is needed) -/

/-- Type-0 header while a message is unfinished on that chunk stream: error, whatever follows. -/
theorem C02_reject_type0_inside_message (st : Reader) (cid form : Nat) (hl : FormLegal cid form)
    (ch : ChunkStream) (m : Msg) (hget : st.chunks.get cid = some ch) (hopen : ch.msg = some m) (bs : Bytes) :
    readChunk st (basicHeader 0 cid form ++ bs) = err .generic ∧
    readMessage st (basicHeader 0 cid form ++ bs) = err .generic :=
  readChunk_reject st (Nat.zero_le 3) hl
    (readMessageHeader_type0_inside (by rw [Chunks.getOrNew_of_get hget, hopen]; rfl) bs)

/-- Message length changed mid-message by a type-1 header: error. -/
theorem C02_reject_length_changed (st : Reader) (cid form : Nat) (hl : FormLegal cid form)
    (ch : ChunkStream) (m : Msg) (hget : st.chunks.get cid = some ch) (hopen : ch.msg = some m)
    (tsf len ty : Nat) (hlen : len < 16777216) (hne : len ≠ ch.hdr.len) (bs : Bytes) :
    readChunk st (basicHeader 1 cid form ++ ((be 3 tsf ++ be 3 len ++ [UInt8.ofNat ty]) ++ bs)) = err .generic ∧
    readMessage st (basicHeader 1 cid form ++ ((be 3 tsf ++ be 3 len ++ [UInt8.ofNat ty]) ++ bs)) = err .generic :=
  readChunk_reject st (by decide) hl <| by
    rw [Chunks.getOrNew_of_get hget]
    refine readMessageHeader_length_changed (by rw [hopen]; rfl) (by simp) ?_ bs
    rw [List.append_assoc, hdrLen_append _ (be_length 3 tsf) (be_length 3 len), ofBE_be_of_lt (by omega)]
    exact hne.symm

/-- A chunk stream the reader has not seen whose first header is type 1, 2 or 3 — other than the
documented librtmp form (type 1 on chunk stream 2): error. -/
theorem C02_reject_fresh_not_type0 (st : Reader) (cid form fmt : Nat) (hl : FormLegal cid form)
    (h1 : 1 ≤ fmt) (h3 : fmt ≤ 3) (hfresh : st.chunks.get cid = none) (hnp : ¬ (cid = 2 ∧ fmt = 1)) (bs : Bytes) :
    readChunk st (basicHeader fmt cid form ++ bs) = err .generic ∧
    readMessage st (basicHeader fmt cid form ++ bs) = err .generic :=
  readChunk_reject st h3 hl <| by
    rw [Chunks.getOrNew_of_get_none hfresh]
    exact readMessageHeader_fresh rfl (by omega) hnp bs

/-- Non-vacuity of the reject hypotheses: after the first chunk (1 of 2 bytes at chunk size 1) of a
message on chunk stream 320 the table holds an unfinished message. -/
example : (match readChunk { inChunk := 1 } [0x01, 0x00, 0x01, 0,0,5, 0,0,2, 9, 1,0,0,0, 0xAA] with
    | .ok ((st, none), _) =>
      (match st.chunks.get 320 with
       | some ch => ch.msg.isSome && ch.hdr.len == 2
       | none => false)
    | _ => false) = true := by
  decide +kernel

/-- The librtmp ping — `42 000000 000006 04 0006 00000d0f`, a type-1 header on a fresh chunk stream 2 —
IS accepted (false before fix F2), with timestamp 0 + delta and message stream 0. -/
theorem ping_form_accepted :
    (match readMessage {} [0x42, 0,0,0, 0,0,6, 4, 0,6, 0,0,0x0d,0x0f] with
     | .ok ((m, _), rest) =>
       decide (toSpec m = { cid := 2, ty := 4, sid := 0, ts := 0, payload := [0,6, 0,0,0x0d,0x0f] }) && rest.isEmpty
     | _ => false) = true := by
  decide +kernel

/-! ### decoding -/

/-- Messages the model reader returns for a wire (none unless all `k` reads succeed). -/
def readSpec (k : Nat) (wire : Bytes) : Option (List Message) :=
  match readMessages k {} wire with
  | .ok ((ms, _), _) => some (ms.map toSpec)
  | _ => none

/-- **The property at full strength**: every byte stream a conformant sender emits (ending at a message
boundary of the chunk stream that sent the last chunk), followed by anything, is decoded by a fresh
reader into exactly the messages that were chunked — chunk stream, type, message stream, payload,
and the timestamp the specification defines reduced to 31 bits — in completion order, consuming
nothing of what follows. -/
def C02_statement : Prop :=
  ∀ (tr : List ChunkEv) (rest : Bytes), Conformant tr → EndsComplete tr →
    ∃ rms st', readMessages (specMessages tr).length {} (specBytes tr ++ rest) = ok ((rms, st'), rest) ∧
      rms.map toSpec = specMessages tr

/-- K2 witness: type 0 at 1000 ms, then a type-1 header with delta 0x1000000 (extended timestamp field
present, carrying the DELTA per §5.3.1.3), then a type-3 header starting a third message (the delta in
force is the extended one). The specification's timestamps are 1000 / 16 778 216 / 33 555 432; the
reader takes the extended field as an absolute time: 1000 / 16 777 216 / 16 777 216. -/
def extDeltaTrace : List ChunkEv :=
  [ { cid := 3, bhForm := 1, fmt := 0, tsField := 1000, len := 1, ty := 9, sid := 1, data := [0xaa] },
    { cid := 3, bhForm := 1, fmt := 1, tsField := 16777216, len := 1, ty := 9, sid := 1, data := [0xbb] },
    { cid := 3, bhForm := 1, fmt := 3, tsField := 16777216, len := 1, ty := 9, sid := 1, data := [0xcc] } ]

theorem C02_extts_delta_witness :
    Conformant extDeltaTrace ∧ Strict extDeltaTrace ∧ EndsComplete extDeltaTrace ∧ ¬ NoExtendedDelta extDeltaTrace ∧
    (specMessages extDeltaTrace).map (·.ts) = [1000, 16778216, 33555432] ∧
    (readSpec 3 (specBytes extDeltaTrace)).map (·.map (·.ts)) = some [1000, 16777216, 16777216] ∧
    readSpec 3 (specBytes extDeltaTrace) ≠ some (specMessages extDeltaTrace) := by
  decide +kernel

/-- The reader's timestamps on the witness are those of the deviating reading, to which
`C02_reader_is_absext_variant` applies (the witness is conformant and ends at a message boundary). -/
example : (messagesAbsExt extDeltaTrace).map (·.ts) = [1000, 16777216, 16777216] ∧
    readSpec 3 (specBytes extDeltaTrace) = some (messagesAbsExt extDeltaTrace) := by
  decide +kernel

/-- Hence the full-strength statement is FALSE for the code as it is (known finding K2). -/
theorem C02_statement_false : ¬ C02_statement := by
  intro h
  obtain ⟨hc, _, he, _, _, _, hne⟩ := C02_extts_delta_witness
  obtain ⟨rms, st', hr, hm⟩ := h extDeltaTrace [] hc he
  apply hne
  have h3 : (specMessages extDeltaTrace).length = 3 := by decide +kernel
  rw [h3, List.append_nil] at hr
  simp only [readSpec, hr, hm]

/-- **C02 (partial: everything except extended DELTAS)**. For every conformant trace — any chunk stream
ids 2..65599 in any legal basic-header form, any legal mix of type 0/1/2/3 headers, extended
timestamps on type-0 headers (repeated on the continuation chunks), chunks of any number of chunk
streams interleaved in any order, Set Chunk Size anywhere (applied to the chunks after it), the
librtmp form included — that does not use an extended delta, the reader returns exactly
`specMessages tr`, in completion order, leaving `rest` untouched. By induction over the trace with
the abstraction relation `Rtmp.Rel` (reader chunk table ↔ sender per-chunk-stream state), no bound on
the number of chunk streams, messages, chunk sizes or lengths.

What is missing w.r.t. `C02_statement`: exactly the traces with `¬ NoExtendedDelta` (a type-1/2 header
whose delta is ≥ 0xFFFFFF, or a type-3 header starting a message while the delta in force is
≥ 0xFFFFFF). For those the statement is false (`C02_extts_delta_witness`, known finding K2). -/
theorem C02_decode_partial (tr : List ChunkEv) (rest : Bytes)
    (hc : Conformant tr) (hn : NoExtendedDelta tr) (he : EndsComplete tr) :
    ∃ rms st', readMessages (specMessages tr).length {} (specBytes tr ++ rest) = ok ((rms, st'), rest) ∧
      rms.map toSpec = specMessages tr := by
  obtain ⟨s', hrun⟩ := conformant_run hc
  obtain ⟨rms, st', _, hm, _, hr⟩ := decode_noExt tr {} s' {} _ rest rel_init hrun hn
  exact ⟨rms, st', hr he, hm⟩

/-- The same at chunk level, without the assumption that the trace ends at a message boundary:
`tr.length` iterations of the `ReadMessage` loop body consume exactly `specBytes tr` and complete
exactly `specMessages tr` (messages of chunk streams still inside a message stay in the table). -/
theorem C02_decode_chunks_partial (tr : List ChunkEv) (rest : Bytes) (hc : Conformant tr) (hn : NoExtendedDelta tr) :
    ∃ rms st', readChunks tr.length {} (specBytes tr ++ rest) = ok ((rms, st'), rest) ∧
      rms.map toSpec = specMessages tr := by
  obtain ⟨s', hrun⟩ := conformant_run hc
  obtain ⟨rms, st', hr, hm, _⟩ := decode_noExt tr {} s' {} _ rest rel_init hrun hn
  exact ⟨rms, st', hr, hm⟩

/-- … and from any point of a session: any sender state and any reader state related by `Rel`
(same chunk size, chunk table representing the sender's chunk streams, messages in flight included). -/
theorem C02_decode_partial_from (tr : List ChunkEv) (s s' : Sender) (st : Reader) (ms : List Message) (rest : Bytes)
    (hrel : Rel s st) (hrun : run false s tr = some (s', ms)) (hn : noExtDeltaFrom s tr = true)
    (he : endsCompleteFrom s tr = true) :
    ∃ rms st', readMessages ms.length st (specBytes tr ++ rest) = ok ((rms, st'), rest) ∧
      rms.map toSpec = ms ∧ Rel s' st' := by
  obtain ⟨rms, st', _, hm, hrel', hr⟩ := decode_noExt tr s s' st ms rest hrel hrun hn
  exact ⟨rms, st', hr he, hm, hrel'⟩

/-- One chunk event (the refinement step): the relation is preserved and the reader hands back exactly
the message the chunk completes — under the specification (`a = false`) for an event without extended
delta, under the deviating reading (`a = true`, see `Spec.RtmpChunk.newTs`) for every event. -/
theorem C02_refinement_step (a : Bool) (s s' : Sender) (st : Reader) (e : ChunkEv) (out : Option Message) (rest : Bytes)
    (hrel : Rel s st) (hstep : step a s e = some (s', out)) (hno : a = true ∨ ¬ UsesExtDelta s e) :
    ∃ st' om, readChunk st (chunkBytes e ++ rest) = ok ((st', om), rest) ∧ Rel s' st' ∧ om.map toSpec = out := by
  refine readChunk_spec s s' st e out rest hrel ?_
  cases a with
  | true => exact hstep
  | false => rw [step_noExt s e (hno.resolve_left Bool.false_ne_true)]; exact hstep

/-! ### K2 stated exactly: what the reader does on ALL conformant traces -/

/-- For EVERY conformant trace (extended deltas included) the reader returns exactly the messages of
the chunker semantics in which an extended timestamp field is always read as an absolute time
(`messagesAbsExt`, i.e. `newTs` with `absExt = true` — NOT the specification). This is the whole of the
deviation K2: nothing else about a conformant stream is decoded differently. -/
theorem C02_reader_is_absext_variant (tr : List ChunkEv) (rest : Bytes) (hc : Conformant tr) (he : EndsComplete tr) :
    ∃ rms st', readMessages (messagesAbsExt tr).length {} (specBytes tr ++ rest) = ok ((rms, st'), rest) ∧
      rms.map toSpec = messagesAbsExt tr := by
  obtain ⟨s', hrun⟩ := conformant_run hc
  obtain ⟨s2, ms2, hrun2, _, _, he2⟩ := run_sim tr {} {} s' _ (sameButTs_refl _) hrun
  obtain ⟨rms, st', _, hm, _, hr⟩ := decode_from tr {} s2 {} ms2 rest rel_init hrun2
  have : messagesAbsExt tr = ms2 := by simp [messagesAbsExt, hrun2]
  rw [this]
  exact ⟨rms, st', hr (he2.trans he), hm⟩

/-- The deviating reading and the specification give the same messages up to the timestamps … -/
theorem absext_same_but_timestamps (tr : List ChunkEv) (hc : Conformant tr) :
    (messagesAbsExt tr).map noTs = (specMessages tr).map noTs := by
  obtain ⟨s', hrun⟩ := conformant_run hc
  obtain ⟨s2, ms2, hrun2, _, hm, _⟩ := run_sim tr {} {} s' _ (sameButTs_refl _) hrun
  simp only [messagesAbsExt, hrun2, hm]

/-- … and exactly the same messages on traces without extended delta. -/
theorem absext_eq_spec_of_noExtendedDelta (tr : List ChunkEv) (hn : NoExtendedDelta tr) :
    messagesAbsExt tr = specMessages tr := by
  simp only [messagesAbsExt, specMessages, run_noExt tr {} hn]

/-- **Everything but the timestamps, for every conformant trace** (no `NoExtendedDelta` hypothesis): the
reader returns the chunked messages — chunk stream, type, message stream, payload — in completion
order and stays in step with the stream; only timestamps formed from an extended delta differ (K2). -/
theorem C02_decode_all_but_timestamps (tr : List ChunkEv) (rest : Bytes) (hc : Conformant tr) (he : EndsComplete tr) :
    ∃ rms st', readMessages (specMessages tr).length {} (specBytes tr ++ rest) = ok ((rms, st'), rest) ∧
      (rms.map toSpec).map noTs = (specMessages tr).map noTs := by
  obtain ⟨rms, st', hr, hm⟩ := C02_reader_is_absext_variant tr rest hc he
  have hsame := absext_same_but_timestamps tr hc
  have hlen : (messagesAbsExt tr).length = (specMessages tr).length := by
    have := congrArg List.length hsame
    simpa using this
  rw [hlen] at hr
  exact ⟨rms, st', hr, by rw [hm, hsame]⟩

/-! ### the reader never panics (reused by C07) -/

/-- The invariant holds initially … -/
theorem readerInv_init : ReaderInv {} := Rtmp.readerInv_init

/-- … is preserved by every successful read, which consumes at least one byte … -/
theorem readerInv_preserved (st st' : Reader) (m : Msg) (bs bs' : Bytes) (hst : ReaderInv st)
    (h : readMessage st bs = ok ((m, st'), bs')) : ReaderInv st' ∧ bs'.length < bs.length :=
  readMessage_ok hst h

/-- … and under it `ReadMessage` never panics on ANY byte string: the `make([]byte, negative)` guard
of `readMessagePayload`, the nil dereference of `chunk.message` and the exhaustion of the model's loop
fuel are unreachable. -/
theorem reader_never_panics (st : Reader) (bs : Bytes) (hst : ReaderInv st) : readMessage st bs ≠ .panic :=
  readMessage_ne_panic hst bs

theorem reader_never_panics_session (k : Nat) (bs : Bytes) : readMessages k {} bs ≠ .panic :=
  readMessages_ne_panic k {} bs Rtmp.readerInv_init

/-! ### non-vacuity -/

/-- An interleaved conformant trace: Set Chunk Size 4 on chunk stream 2; a 6-byte message on chunk
stream 64 (2-byte basic header, type 0 with EXTENDED timestamp 0x1000000, continued under the 3-byte
form with the extended timestamp repeated) interleaved with a 5-byte message on chunk stream 65599
(3-byte form); then type 1 (delta 20), type 2 (delta 5) and a type-3 header starting a message on
65599, a type-1 on 64, and a zero-length message. -/
def exTrace : List ChunkEv :=
  [ { cid := 2, bhForm := 1, fmt := 0, tsField := 0, len := 4, ty := 1, sid := 0, data := [0, 0, 0, 4] },
    { cid := 64, bhForm := 2, fmt := 0, tsField := 16777216, len := 6, ty := 9, sid := 1, data := [1, 2, 3, 4] },
    { cid := 65599, bhForm := 3, fmt := 0, tsField := 10, len := 5, ty := 8, sid := 1, data := [10, 11, 12, 13] },
    { cid := 64, bhForm := 3, fmt := 3, tsField := 16777216, len := 6, ty := 9, sid := 1, data := [5, 6] },
    { cid := 65599, bhForm := 3, fmt := 3, tsField := 10, len := 5, ty := 8, sid := 1, data := [14] },
    { cid := 65599, bhForm := 3, fmt := 1, tsField := 20, len := 2, ty := 8, sid := 1, data := [20, 21] },
    { cid := 65599, bhForm := 3, fmt := 2, tsField := 5, len := 2, ty := 8, sid := 1, data := [22, 23] },
    { cid := 65599, bhForm := 3, fmt := 3, tsField := 5, len := 2, ty := 8, sid := 1, data := [24, 25] },
    { cid := 64, bhForm := 2, fmt := 1, tsField := 7, len := 0, ty := 9, sid := 1, data := [] } ]

theorem exTrace_ok : Conformant exTrace ∧ NoExtendedDelta exTrace ∧ EndsComplete exTrace ∧ Strict exTrace := by
  decide +kernel

example : specMessages exTrace =
    [ { cid := 2, ty := 1, sid := 0, ts := 0, payload := [0, 0, 0, 4] },
      { cid := 64, ty := 9, sid := 1, ts := 16777216, payload := [1, 2, 3, 4, 5, 6] },
      { cid := 65599, ty := 8, sid := 1, ts := 10, payload := [10, 11, 12, 13, 14] },
      { cid := 65599, ty := 8, sid := 1, ts := 30, payload := [20, 21] },
      { cid := 65599, ty := 8, sid := 1, ts := 35, payload := [22, 23] },
      { cid := 65599, ty := 8, sid := 1, ts := 40, payload := [24, 25] },
      { cid := 64, ty := 9, sid := 1, ts := 16777223, payload := [] } ] := by
  decide +kernel

/-- The theorem applied to the example, and the same computed directly by the kernel. -/
example : ∃ rms st', readMessages 7 {} (specBytes exTrace ++ [0xEE]) = ok ((rms, st'), [0xEE]) ∧
    rms.map toSpec = specMessages exTrace := by
  have h7 : (specMessages exTrace).length = 7 := by decide +kernel
  have := C02_decode_partial exTrace [0xEE] exTrace_ok.1 exTrace_ok.2.1 exTrace_ok.2.2.1
  rwa [h7] at this

example : readSpec 7 (specBytes exTrace) = some (specMessages exTrace) := by decide +kernel

/-- The librtmp form is conformant (not `Strict`), with an extended TIMESTAMP on a later type 0. -/
example : Conformant [{ cid := 2, bhForm := 1, fmt := 1, tsField := 0, len := 6, ty := 4, sid := 0, data := [0,6, 0,0,0x0d,0x0f] },
                      { cid := 2, bhForm := 1, fmt := 0, tsField := 4294967295, len := 4, ty := 5, sid := 0, data := [0,0,0,1] }] ∧
    ¬ Strict [{ cid := 2, bhForm := 1, fmt := 1, tsField := 0, len := 6, ty := 4, sid := 0, data := [0,6, 0,0,0x0d,0x0f] }] := by
  decide +kernel

/-- Rule breaks are not conformant: type 0 inside a message; an Abort message; a fresh chunk stream
starting with type 3; a chunk longer than the chunk size. -/
example :
    ¬ Conformant [{ cid := 3, bhForm := 1, fmt := 0, tsField := 0, len := 200, ty := 9, sid := 1, data := List.replicate 128 0 },
                  { cid := 3, bhForm := 1, fmt := 0, tsField := 0, len := 200, ty := 9, sid := 1, data := List.replicate 72 0 }] ∧
    ¬ Conformant [{ cid := 2, bhForm := 1, fmt := 0, tsField := 0, len := 4, ty := 2, sid := 0, data := [0,0,0,3] }] ∧
    ¬ Conformant [{ cid := 5, bhForm := 1, fmt := 3, tsField := 0, len := 0, ty := 0, sid := 0, data := [] }] ∧
    ¬ Conformant [{ cid := 3, bhForm := 1, fmt := 0, tsField := 0, len := 129, ty := 9, sid := 1, data := List.replicate 129 0 }] := by
  decide +kernel

end Oryx.Props.C02
