/-
  C10 — FLV audio/video tag bodies round-trip through the packagers.
  Only property statements, their proofs from the helper lemmas (Oryx/Proofs/FlvBody.lean), and
  non-vacuity examples. Model: Oryx/Model/Flv.lean (flv/flv.go as repaired: F7 ToHz/OpusToHz total,
  F8 rate masked to its 2-bit field, F9 per-codec minimum body length); rate/name tables:
  Oryx/Gen/Flv.lean (regenerated from the Go source on every run).
-/
import Oryx.Proofs.FlvBody
namespace Oryx.Props.C10
open Oryx Oryx.Res Oryx.Flv

/-- Every canonical audio frame — all 16 sound formats, rate/size/channel bits, AAC trait byte, every
Opus trait-flag subset with the optional rate byte (any value, so 8/12/16/24/48) and 16-bit level,
arbitrary raw payload — decodes from its encoding to itself. -/
theorem audio_roundtrip (f : AudioFrame) (h : f.Canonical) : decodeAudio (encodeAudio f) = ok f :=
  audio_rt f h

/-- The first byte of the encoded body is SoundFormat·16 + SoundRate·4 + SoundSize·2 + SoundType
(E.4.2.1; rate bits 0 for Opus), so the codec id readable in it is the frame's. -/
theorem audio_first_byte_fields (f : AudioFrame) (h : f.Canonical) :
    ∃ b, (encodeAudio f).head? = some b ∧
      b = UInt8.ofNat (Spec.Flv.audioByte f.fmt.toNat (if f.fmt = codecOpus then 0 else f.rate.toNat)
            f.size.toNat f.chan.toNat) ∧
      (b >>> 4) &&& 0x0f = f.fmt := by
  obtain ⟨hfmt, -, -, -, hval⟩ := audioFirstByte_fields f h
  exact ⟨_, encodeAudio_head f, hval, hfmt⟩

/-- Every canonical video frame — all frame types and codec ids, AVC/HEVC trait byte and 24-bit
composition time, arbitrary raw payload — decodes from its encoding to itself. -/
theorem video_roundtrip (f : VideoFrame) (h : f.Canonical) : decodeVideo (encodeVideo f) = ok f :=
  video_rt f h

/-- The first byte is FrameType·16 + CodecID (E.4.3.1): frame type and codec id are readable in it. -/
theorem video_first_byte_fields (f : VideoFrame) (h : f.Canonical) :
    ∃ b, (encodeVideo f).head? = some b ∧
      b = UInt8.ofNat (Spec.Flv.videoByte f.frameType.toNat f.codec.toNat) ∧
      (b >>> 4) &&& 0x0f = f.frameType ∧ b &&& 0x0f = f.codec := by
  obtain ⟨hft, hcodec, hval⟩ := videoFirstByte_fields f h
  exact ⟨_, encodeVideo_head f, hval, hft, hcodec⟩

/-- Every canonical tag body the packagers accept re-encodes to the same bytes. Audio: every accepted
body except an Opus body with a non-zero (unused) rate field in the first byte; video: every accepted body.
The decoded video frame is itself canonical. -/
theorem canonical_tag_rt :
    (∀ t f, decodeAudio t = ok f → CanonicalAudioTag t → encodeAudio f = t) ∧
    (∀ t f, decodeVideo t = ok f → encodeVideo f = t ∧ f.Canonical) :=
  ⟨fun t _ h => (decodeAudio_sat t).of_ok h, fun _ _ h => (decodeVideo_eq_ok_iff.mp h).symm⟩

/-- The `CanonicalAudioTag` hypothesis is needed: the Opus body `D4 02` (rate field 1, no rate byte)
is accepted with SoundRate 1 and re-encodes to `D0 02`. -/
theorem noncanonical_opus_tag_witness :
    decodeAudio [0xd4, 0x02] = ok ⟨13, 1, 0, 0, 2, 0, []⟩ ∧ encodeAudio ⟨13, 1, 0, 0, 2, 0, []⟩ = [0xd0, 0x02] ∧
    ¬ CanonicalAudioTag [0xd4, 0x02] := by
  refine ⟨rfl, rfl, by decide⟩

/-- Every defined rate code converts to the frequency its definition gives: the FLV SoundRate codes
(E.4.2.1) to 5512/11025/22050/44100 Hz, the Opus codes (RFC 6716 §2) to 8/12/16/24/48 kHz — stated on
the generated constants and tables, and against the independent tables of `Spec.Flv`. -/
theorem rates :
    toHz (UInt8.ofNat Gen.Flv.AudioSamplingRate5kHz) = ok 5512 ∧
    toHz (UInt8.ofNat Gen.Flv.AudioSamplingRate11kHz) = ok 11025 ∧
    toHz (UInt8.ofNat Gen.Flv.AudioSamplingRate22kHz) = ok 22050 ∧
    toHz (UInt8.ofNat Gen.Flv.AudioSamplingRate44kHz) = ok 44100 ∧
    opusToHz (UInt8.ofNat Gen.Flv.AudioSamplingRateNB8kHz) = ok 8000 ∧
    opusToHz (UInt8.ofNat Gen.Flv.AudioSamplingRateMB12kHz) = ok 12000 ∧
    opusToHz (UInt8.ofNat Gen.Flv.AudioSamplingRateWB16kHz) = ok 16000 ∧
    opusToHz (UInt8.ofNat Gen.Flv.AudioSamplingRateSWB24kHz) = ok 24000 ∧
    opusToHz (UInt8.ofNat Gen.Flv.AudioSamplingRateFB48kHz) = ok 48000 ∧
    (∀ p ∈ Spec.Flv.soundRateHz, toHz (UInt8.ofNat p.1) = ok p.2) ∧
    (∀ p ∈ Spec.Flv.opusRateHz, opusToHz (UInt8.ofNat p.1) = ok p.2) := by
  decide

/-- The enum helpers are total over all 256 values of their `uint8` receiver: `ToHz`, `OpusToHz` (fix F7)
and every generated `String()` table return a value, never a panic. -/
theorem enum_helpers_total : ∀ v : UInt8,
    (toHz v).isPanic = false ∧ (opusToHz v).isPanic = false ∧
    (Gen.Flv.TagType_String v.toNat).isPanic = false ∧
    (Gen.Flv.AudioChannels_String v.toNat).isPanic = false ∧
    (Gen.Flv.AudioSampleBits_String v.toNat).isPanic = false ∧
    (Gen.Flv.AudioSamplingRate_String v.toNat).isPanic = false ∧
    (Gen.Flv.AudioCodec_String v.toNat).isPanic = false ∧
    (Gen.Flv.VideoFrameType_String v.toNat).isPanic = false ∧
    (Gen.Flv.VideoCodec_String v.toNat).isPanic = false ∧
    (Gen.Flv.VideoFrameTrait_String v.toNat).isPanic = false := by
  -- every leaf of the generated `if` chains is an `ok`: true of any number, not only of the 256 receiver values
  intro v
  simp only [toHz, opusToHz, Gen.Flv.AudioSamplingRate_ToHz, Gen.Flv.AudioSamplingRate_OpusToHz,
    Gen.Flv.TagType_String, Gen.Flv.AudioChannels_String, Gen.Flv.AudioSampleBits_String,
    Gen.Flv.AudioSamplingRate_String, Gen.Flv.AudioCodec_String, Gen.Flv.VideoFrameType_String,
    Gen.Flv.VideoCodec_String, Gen.Flv.VideoFrameTrait_String, Res.isPanic_ite, Res.isPanic_ok, ite_self, and_self]

/-- The value of a successful result (for statements decided by evaluation). -/
def okVal : Res Nat → Option Nat
  | .ok n => some n
  | _ => none

/-- Outside the defined codes the rate helpers return 0 (and only there). -/
theorem rates_undefined_zero : ∀ v : UInt8,
    (okVal (toHz v) = some 0 ↔ 4 ≤ v.toNat) ∧
    (okVal (opusToHz v) = some 0 ↔ v.toNat ∉ [8, 12, 16, 24, 48]) := by
  apply forall_u8; decide +kernel

/-- The AAC → FLV conversion helpers over all 256 argument values: every defined AAC sampling-rate index
(0..12) is mapped to a defined FLV code resp. a defined Opus code — so `ToHz`/`OpusToHz` of the result is
one of the definitions' frequencies, never 0 — every other index to `AudioSamplingRateForbidden`; channel
configurations 1..7 to mono/stereo, every other value to `AudioChannelsForbidden`. -/
theorem from_helpers : ∀ a : UInt8,
    (a.toNat ≤ 12 →
      samplingRateFrom a ≤ 3 ∧ (okVal (toHz (UInt8.ofNat (samplingRateFrom a)))) ∈ [some 5512, some 11025, some 22050, some 44100] ∧
      (okVal (opusToHz (UInt8.ofNat (samplingRateOpusFrom a)))) ∈ [some 8000, some 12000, some 16000, some 24000, some 48000]) ∧
    (12 < a.toNat →
      samplingRateFrom a = Gen.Flv.AudioSamplingRateForbidden ∧
      samplingRateOpusFrom a = Gen.Flv.AudioSamplingRateForbidden) ∧
    (1 ≤ a.toNat ∧ a.toNat ≤ 7 → channelsFrom a < 2) ∧
    (a.toNat = 0 ∨ 7 < a.toNat → channelsFrom a = Gen.Flv.AudioChannelsForbidden) := by
  apply forall_u8; decide +kernel

/-- No byte string makes either decoder panic. -/
theorem decoders_never_panic (t : Bytes) : decodeAudio t ≠ .panic ∧ decodeVideo t ≠ .panic :=
  ⟨(decodeAudio_sat t).ne_panic, (decodeVideo_sat t).ne_panic⟩

/-- Gating obligation: the translator still translates every rate/name helper it is expected to
(an untranslatable rewrite of one of them shows up here, not as a silently stale model). -/
theorem helpers_translated :
    "AudioFrameTrait_String" ∈ Gen.Flv.translatedHelpers ∧
    "AudioSamplingRate_ToHz" ∈ Gen.Flv.translatedHelpers ∧
    "AudioSamplingRate_OpusToHz" ∈ Gen.Flv.translatedHelpers := by
  simp only [Gen.Flv.translatedHelpers, List.mem_cons, true_or, or_true, and_self]

/-- `AudioFrameTrait.String()` is not a plain switch: the translator EVALUATES it for all 256 receiver values; the
hand-written `audioTraitString` (flag names joined by `|`) is that table. -/
theorem audioTraitString_is_source : ∀ v : UInt8,
    Gen.Flv.AudioFrameTrait_String v.toNat = .ok (audioTraitString v) := by
  apply forall_u8
  decide +kernel

/-! ### non-vacuity: concrete inhabitants of the hypotheses; the formerly failing inputs F8/F9 -/

/-- Opus, super-wideband (rate code 24), 16-bit level: the F8 input. -/
def exOpus : AudioFrame := { fmt := 13, rate := 24, size := 1, chan := 1, trait := 0x0e, level := 0xabcd, raw := [0xaa] }
def exAAC : AudioFrame := { fmt := 10, rate := 3, size := 1, chan := 1, trait := 1, level := 0, raw := [0x21, 0x10] }
/-- MP3 with an empty payload: a 1-byte body (F9). -/
def exMP3 : AudioFrame := { fmt := 2, rate := 3, size := 1, chan := 1, trait := 0, level := 0, raw := [] }
def exAVC : VideoFrame := { codec := 7, frameType := 1, trait := 1, cts := 0xfedcba, raw := [0, 0, 0, 1, 0x65] }
/-- H.263 info frame `52 00` (F9). -/
def exH263 : VideoFrame := { codec := 2, frameType := 5, trait := 0, cts := 0, raw := [0] }

example : exOpus.Canonical ∧ exAAC.Canonical ∧ exMP3.Canonical := by decide
example : exAVC.Canonical ∧ exH263.Canonical := by decide
example : encodeAudio exOpus = [0xd3, 0x0e, 24, 0xab, 0xcd, 0xaa] := by decide
example : encodeAudio exMP3 = [0x2f] ∧ encodeVideo exH263 = [0x52, 0x00] := by decide
example : encodeVideo exAVC = [0x17, 1, 0xfe, 0xdc, 0xba, 0, 0, 0, 1, 0x65] := by decide
example : CanonicalAudioTag [0xd3, 0x0e, 24, 0xab, 0xcd, 0xaa] ∧ CanonicalAudioTag [0xaf, 0x01] := by decide
example : decodeAudio [0xd3, 0x0e, 24, 0xab, 0xcd, 0xaa] = ok exOpus := by rfl
example : decodeVideo [0x52, 0x00] = ok exH263 := by rfl

end Oryx.Props.C10
