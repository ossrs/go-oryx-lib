/-
  C16 — JOSE objects verify/decrypt only if untampered, for every algorithm.

  Partial by design (DESIGN §8 C16): all cryptographic strength is assumed, as explicit hypotheses
  in the standard idealised form (`IdealSig`, `IdealAead`, `IdealKeyMgmt`, `BlockPerm`,
  `IdealCbc`). What the LIBRARY adds is modelled concretely and proved for all inputs: base64url,
  compact serialisation, signing input and AAD (injective, built from the protected octets as
  received), PKCS#7, the CBC-HMAC tag input, RFC 3394 key wrap as coded, fixed-width ECDSA
  signatures and EC coordinates, header merge precedence, the parameter checks before `Open` and
  the decrypt failure flag. `C16_roundtrip_*` / `C16_tamper_*` combine both.
-/
import Oryx.Proofs.Jose
import Oryx.Proofs.JoseKw
import Oryx.Gen.Jose
namespace Oryx.Props.C16
open Oryx Oryx.Res Oryx.Jose

/-! ### gating obligations on the constants regenerated from https/jose on every run

The RFC 7638 thumbprint input is the JSON object with exactly the required members in lexicographic
order and no whitespace: `{"crv","kty","x","y"}` for EC and `{"e","kty","n"}` for RSA; the algorithm
identifiers are the RFC 7518 names (a renamed or mistyped identifier changes what peers negotiate). -/
example : Gen.Jose.ecThumbprintShape = "{\"crv\":\"%s\",\"kty\":\"EC\",\"x\":\"%s\",\"y\":\"%s\"}" := rfl
example : Gen.Jose.rsaThumbprintShape = "{\"e\":\"%s\",\"kty\":\"RSA\",\"n\":\"%s\"}" := rfl
example : [Gen.Jose.HS256, Gen.Jose.HS384, Gen.Jose.HS512, Gen.Jose.RS256, Gen.Jose.RS384, Gen.Jose.RS512,
           Gen.Jose.PS256, Gen.Jose.PS384, Gen.Jose.PS512, Gen.Jose.ES256, Gen.Jose.ES384, Gen.Jose.ES512]
        = ["HS256", "HS384", "HS512", "RS256", "RS384", "RS512", "PS256", "PS384", "PS512", "ES256", "ES384", "ES512"] := rfl
example : [Gen.Jose.RSA1_5, Gen.Jose.RSA_OAEP, Gen.Jose.RSA_OAEP_256, Gen.Jose.A128KW, Gen.Jose.A192KW, Gen.Jose.A256KW,
           Gen.Jose.DIRECT, Gen.Jose.ECDH_ES, Gen.Jose.ECDH_ES_A128KW, Gen.Jose.ECDH_ES_A192KW, Gen.Jose.ECDH_ES_A256KW,
           Gen.Jose.A128GCMKW, Gen.Jose.A192GCMKW, Gen.Jose.A256GCMKW]
        = ["RSA1_5", "RSA-OAEP", "RSA-OAEP-256", "A128KW", "A192KW", "A256KW", "dir", "ECDH-ES", "ECDH-ES+A128KW",
           "ECDH-ES+A192KW", "ECDH-ES+A256KW", "A128GCMKW", "A192GCMKW", "A256GCMKW"] := rfl
example : [Gen.Jose.A128CBC_HS256, Gen.Jose.A192CBC_HS384, Gen.Jose.A256CBC_HS512, Gen.Jose.A128GCM, Gen.Jose.A192GCM,
           Gen.Jose.A256GCM, Gen.Jose.DEFLATE]
        = ["A128CBC-HS256", "A192CBC-HS384", "A256CBC-HS512", "A128GCM", "A192GCM", "A256GCM", "DEF"] := rfl

/-! ### base64url -/

theorem b64_roundtrip (b : Bytes) : unb64 (b64 b) = ok b := unb64_b64 b

theorem b64_injective (a b : Bytes) (h : b64 a = b64 b) : a = b := b64_inj h

/-- Only the 64 alphabet characters are emitted: never `.`, `=`, a newline or whitespace. -/
theorem b64_alphabet (b : Bytes) : ∀ c ∈ b64 b, c ∈ alphabet ∧ c ≠ '.' ∧ c ≠ '=' ∧ isNl c = false ∧ isWs c = false :=
  fun c hc =>
    have h := b64_chars b c hc
    have ⟨h1, h2, h3, h4, _⟩ := h.class
    ⟨B64Char.iff_mem.1 h, h1, h2, h3, h4⟩

/-- The decoder's leniency, exactly: in a final quantum of two (resp. three) characters the low four
(resp. two) bits of the last character are ignored, whatever they are; nothing else is. Stated for
every pair / triple of sextets. -/
theorem b64_leniency_tail2 (i j : Nat) (hi : i < 64) (hj : j < 64) :
    unb64 [encChar i, encChar j] = ok [UInt8.ofNat (i * 4 + j / 16)] := unb64_two hi hj

theorem b64_leniency_tail3 (i j k : Nat) (hi : i < 64) (hj : j < 64) (hk : k < 64) :
    unb64 [encChar i, encChar j, encChar k] =
      ok [UInt8.ofNat (i * 4 + j / 16), UInt8.ofNat (j % 16 * 16 + k / 4)] := unb64_three hi hj hk

/-- Consequence: two-character tails that differ only in the low four bits of the last character
decode to the same octet (these are the "no-op flips" the harness counts separately). -/
theorem b64_leniency_same (i j j' : Nat) (hi : i < 64) (hj : j < 64) (hj' : j' < 64) (h : j / 16 = j' / 16) :
    unb64 [encChar i, encChar j] = unb64 [encChar i, encChar j'] := by
  rw [b64_leniency_tail2 i j hi hj, b64_leniency_tail2 i j' hi hj', h]

/-- The leniency in general, exactly: for any text over the alphabet (any length), if it decodes to
`b` then the encoding of `b` is the text's canonical form — the text with the data-free low bits of
its last character cleared (`canonLast`) — and that canonical form decodes to `b` too. Hence two
texts decode to the same octets only if they agree up to those bits; a 1-character tail never decodes. -/
theorem b64_leniency_exact (s : List Char) (h : ∀ c ∈ s, B64Char c) (b : Bytes) (hb : unb64 s = ok b) :
    b64 b = canonLast s ∧ unb64 (canonLast s) = ok b := by
  have h1 := b64_unb64_canon s h b hb
  exact ⟨h1, by rw [← h1]; exact unb64_b64 b⟩

theorem b64_same_octets_same_canon (s s' : List Char) (h : ∀ c ∈ s, B64Char c) (h' : ∀ c ∈ s', B64Char c)
    (b : Bytes) (hb : unb64 s = ok b) (hb' : unb64 s' = ok b) : canonLast s = canonLast s' := by
  rw [← b64_unb64_canon s h b hb, ← b64_unb64_canon s' h' b hb']

theorem b64_one_char_tail_fails (c : Char) (h : B64Char c) : unb64 [c] = err .generic := by
  obtain ⟨i, hi, e⟩ := h
  rw [e, unb64_one hi]

/-! ### compact serialisation -/

/-- `parse (serialize parts) = parts` for any non-empty list of parts (JWS: 3, JWE: 5), because no
part's text contains a dot. -/
theorem compact_roundtrip (parts : List Bytes) (hne : parts ≠ []) :
    compactParse parts.length (compactSerialize parts) = ok parts := compactParse_compactSerialize hne

/-! ### signing input and AAD -/

/-- The signing input `b64(protected) "." b64(payload)` determines both the protected octets and the
payload. -/
theorem signing_input_injective (p p' m m' : Bytes) (h : signingInput p m = signingInput p' m') :
    p = p' ∧ m = m' := signingInput_inj h

/-- The JWE AAD `b64(protected) [ "." b64(aad) ]` determines the protected octets and whether/what
AAD is present. -/
theorem aad_injective (p p' : Bytes) (a a' : Option Bytes) (h : aadInput p a = aadInput p' a') :
    p = p' ∧ a = a' := aadInput_inj h

/-! ### PKCS#7 -/

theorem pkcs7_roundtrip (k : Nat) (hk : 0 < k) (hk2 : k < 256) (x : Bytes) :
    unpad k (pad k x) = ok x ∧ (pad k x).length % k = 0 ∧
    x.length < (pad k x).length ∧ (pad k x).length ≤ x.length + k := by
  have hl := pad_length k x
  have hm := Nat.mod_lt x.length hk
  exact ⟨unpad_pad k hk hk2 x, pad_length_mod k hk x, by omega, by omega⟩

/-- Defect F28 (repaired): `unpadBuffer` on the empty buffer indexed `buffer[-1]`. It is reached behind a matching
tag — "with the key" — but the content key of a JWE is chosen by its SENDER: for RSA and ECDH-ES recipients anyone
can build an object with an empty ciphertext and a valid tag. -/
theorem f28_witness_unrepaired : unpadUnrepaired 16 [] = .panic := rfl

/-- The repaired `unpadBuffer` returns a value or an error for EVERY buffer, and with it the CBC-HMAC `Open`
whatever the primitives, key, IV, ciphertext (empty included), tag and AAD are. -/
theorem unpad_never_panics (k : Nat) (b : Bytes) : unpad k b ≠ .panic := unpad_ne_panic k b

theorem cbc_open_never_panics (P : CbcPrims) (ek mk iv ct tag aad : Bytes) : cbcOpen P ek mk iv ct tag aad ≠ .panic :=
  guard_ne_panic fun _ => guard_ne_panic fun _ => unpad_ne_panic _ _

example : unpad 16 [] = err .generic := rfl

/-! ### CBC-HMAC tag input -/

theorem cbc_tag_input_injective (aad aad' iv iv' ct ct' : Bytes) (hiv : iv.length = 16) (hiv' : iv'.length = 16)
    (ha : aad.length * 8 < 2 ^ 64) (ha' : aad'.length * 8 < 2 ^ 64)
    (h : tagInput aad iv ct = tagInput aad' iv' ct') : aad = aad' ∧ iv = iv' ∧ ct = ct' :=
  tagInput_inj (by rw [hiv, hiv']) ha ha' h

/-! ### RFC 3394 key wrap -/

/-- For ANY invertible 16-byte block function and every key of 8·n bytes (n ≥ 0):
`KeyUnwrap (KeyWrap cek) = cek`, and the wrapped key is 8 bytes longer. -/
theorem keywrap_roundtrip (enc dec : Bytes → Bytes) (hp : BlockPerm enc dec) (cek : Bytes)
    (h8 : cek.length % 8 = 0) :
    ∃ w, keyWrap enc cek = ok w ∧ w.length = cek.length + 8 ∧ keyUnwrap dec w = ok cek :=
  keyUnwrap_keyWrap hp cek h8

/-- Inputs that are not whole blocks are errors, never panics (repaired F15b). -/
theorem keyunwrap_never_panics_on_length (dec : Bytes → Bytes) (ct : Bytes) (h : ct.length < 8 ∨ ct.length % 8 ≠ 0) :
    keyUnwrap dec ct = err .generic := by
  simp [keyUnwrap, h]

/-- F15b (repaired; regression witness): the code as it was panics on the empty wrapped key. -/
theorem f15b_witness_unrepaired (dec : Bytes → Bytes) : keyUnwrapUnrepaired dec [] = .panic := rfl

/-! ### fixed-width integers -/

/-- ECDSA `r ‖ s`: fixed width with leading zeros; decoding gives back `(r, s)`. -/
theorem ecsig_roundtrip (size r s : Nat) (hr : r < 256 ^ size) (hs : s < 256 ^ size) :
    ∃ sig, ecSigEncode size r s = ok sig ∧ sig.length = 2 * size ∧ ecSigDecode size sig = ok (r, s) := by
  have hlen : (be size r ++ be size s).length = 2 * size := by simp [be_length]; omega
  refine ⟨be size r ++ be size s, by simp [ecSigEncode, hr, hs], hlen, ?_⟩
  rw [ecSigDecode, if_neg (not_not_intro hlen), take_append_len _ _ (be_length size r),
    drop_append_len _ _ (be_length size r), ofBE_be_of_lt hr, ofBE_be_of_lt hs]

/-- Different signature octets (of the accepted length) are different `(r, s)`. -/
theorem ecsig_decode_injective (size : Nat) (sig sig' : Bytes) (r s : Nat)
    (h1 : ecSigDecode size sig = ok (r, s)) (h2 : ecSigDecode size sig' = ok (r, s)) : sig = sig' :=
  ecSigDecode_inj size h1 h2

/-- EC coordinates in a JWK: both exactly `size` octets (leading zeros kept), decoding gives the
coordinates back. -/
theorem eccoords_roundtrip (size x y : Nat) (hx : x < 256 ^ size) (hy : y < 256 ^ size) :
    ∃ xb yb, ecCoordsEncode size x y = ok (xb, yb) ∧ xb.length = size ∧ yb.length = size ∧
      ecCoordsDecode xb yb = (x, y) :=
  ⟨be size x, be size y, by simp [ecCoordsEncode, hx, hy], be_length _ _, be_length _ _,
    by simp [ecCoordsDecode, ofBE_be_of_lt hx, ofBE_be_of_lt hy]⟩

theorem curve_sizes : curveSize 256 = 32 ∧ curveSize 384 = 48 ∧ curveSize 521 = 66 := by decide

/-! ### header merge precedence -/

/-- protected wins over unprotected wins over per-recipient, field by field. -/
theorem merge_precedence (p u r : Header) :
    (mergedHeaders (some p) (some u) (some r)).alg = pick p.alg (pick u.alg r.alg) ∧
    (mergedHeaders (some p) (some u) (some r)).enc = pick p.enc (pick u.enc r.enc) ∧
    (mergedHeaders (some p) (some u) (some r)).zip = pick p.zip (pick u.zip r.zip) ∧
    (mergedHeaders (some p) (some u) (some r)).kid = pick p.kid (pick u.kid r.kid) := by
  rw [mergedHeaders_some]
  exact ⟨rfl, rfl, rfl, rfl⟩

theorem merge_protected_wins (p u r : Header) (h : p.alg ≠ "") :
    (mergedHeaders (some p) (some u) (some r)).alg = p.alg := by
  rw [mergedHeaders_some]
  exact if_neg h

/-! ### parameter checks before `Open`, decrypt flag -/

/-- With a key of a size the algorithm family accepts, no IV / ciphertext / tag length makes the
content cipher panic: wrong sizes are errors (repaired F15a). -/
theorem precheck_never_panics (e : Enc) (keyLen ivLen ctLen tagLen : Nat)
    (hk : if e.isGcm then True else keyLen % 2 = 0) :
    precheck e keyLen ivLen ctLen tagLen ≠ .panic := by
  by_cases hg : e.isGcm = true
  · rw [precheck, if_pos hg]
    exact guard_ne_panic fun _ => guard_ne_panic fun _ => nofun
  · rw [if_neg hg] at hk
    -- the two halves of an even key are equally long: the half that reaches `hmac.New` has passed the first check
    rw [precheck, if_neg hg, show keyLen - keyLen / 2 = keyLen / 2 by omega]
    refine guard_ne_panic fun h1 => guard_ne_panic fun _ => guard_ne_panic fun _ => ?_
    rw [if_neg h1]
    exact nofun

/-- `Open` is entered only with the nonce size of the algorithm and a tag of at least 16 bytes. -/
theorem precheck_ok_lengths (e : Enc) (keyLen ivLen ctLen tagLen : Nat)
    (h : precheck e keyLen ivLen ctLen tagLen = ok ()) :
    ivLen = e.nonceSize ∧ 16 ≤ tagLen := by
  refine Decidable.by_contra fun hn => ?_
  have hg : ivLen ≠ e.nonceSize ∨ tagLen < e.tagBytes := by unfold Enc.tagBytes; omega
  simp [precheck, hg] at h

/-- F15a (repaired; regression witness): before the repair a 3-byte GCM IV reached the documented
panic of `cipher.NewGCM(...).Open`. -/
theorem f15a_witness_unrepaired : precheckUnrepaired .a128gcm 16 3 3 16 = .panic ∧
    precheck .a128gcm 16 3 3 16 = err .generic := ⟨rfl, rfl⟩

/-- F19 (repaired; regression witness): `Open` returns an empty (nil) slice for an empty plaintext;
the old failure flag `plaintext == nil` turned that success into an error. -/
theorem f19_witness_unrepaired : decryptResultUnrepaired (some []) = err .generic ∧
    decryptResult (some []) = ok [] := ⟨rfl, rfl⟩

/-! ### idealised primitives (the hypotheses) -/

/-- Idealised signature / MAC: the genuine signature verifies; only the genuine signature of a
message verifies under the genuine key; signatures of different messages differ (collision-free);
a signature made with another key does not verify. -/
structure IdealSig {SK PK : Type} (P : SigPrim SK PK) : Prop where
  verify_sign : ∀ sk m, P.verify (P.pub sk) m (P.sign sk m) = true
  unforgeable : ∀ sk m s, P.verify (P.pub sk) m s = true → s = P.sign sk m
  collision_free : ∀ sk m m', P.sign sk m = P.sign sk m' → m = m'
  key_sep : ∀ sk sk' m, P.pub sk ≠ P.pub sk' → P.verify (P.pub sk') m (P.sign sk m) = false

/-- Idealised AEAD around one genuine sealing `(k, iv, pt, a)`: it opens; anything that opens under
`k` is the genuine (iv, ct, tag, aad); another key opens nothing. -/
structure IdealAead (A : AeadPrim) (k iv pt a : Bytes) : Prop where
  open_seal : A.openF k iv (A.sealF k iv pt a).1 (A.sealF k iv pt a).2 a = some pt
  authentic : ∀ iv' ct' tag' a' p', A.openF k iv' ct' tag' a' = some p' →
    iv' = iv ∧ ct' = (A.sealF k iv pt a).1 ∧ tag' = (A.sealF k iv pt a).2 ∧ a' = a
  wrong_key : ∀ k' iv' ct' tag' a', k' ≠ k → A.openF k' iv' ct' tag' a' = none

/-- Idealised key management around one genuine wrapping of `cek`: unwrap ∘ wrap = id; only the
genuine encrypted key unwraps to the genuine CEK; another private key does not yield the CEK. -/
structure IdealKeyMgmt {EK DK : Type} (K : KeyMgmt EK DK) (dk : DK) (cek : Bytes) : Prop where
  unwrap_wrap : K.unwrap dk (K.wrap (K.pub dk) cek) = some cek
  authentic : ∀ ek', K.unwrap dk ek' = some cek → ek' = K.wrap (K.pub dk) cek
  other_key : ∀ dk' c, K.pub dk' ≠ K.pub dk → K.unwrap dk' (K.wrap (K.pub dk) cek) = some c → c ≠ cek

def ZipLawful (z : Zip) : Prop := ∀ x, z.inflate (z.deflate x) = some x

def zipLawful : Option Zip → Prop
  | none => True
  | some z => ZipLawful z

theorem decompress_zipApply {z : Option Zip} (hz : zipLawful z) (pt : Bytes) : decompress z (zipApply z pt) = ok pt := by
  cases z with
  | none => rfl
  | some z => simp only [decompress, zipApply]; rw [hz pt]

/-! ### JWS: round trip and tamper -/

/-- Sign, serialise compactly, parse, verify with the right key: exactly the original payload. -/
theorem C16_roundtrip_jws {SK PK : Type} (P : SigPrim SK PK) (hP : IdealSig P) (sk : SK) (prot payload : Bytes) :
    (jwsParse (jwsCompact (jwsSign P sk prot payload))).bind (jwsVerify P (P.pub sk)) = ok payload := by
  rw [jwsParse_jwsCompact]
  exact if_pos (hP.verify_sign sk _)

/-- Under the signer's key, the signature made for `(p, m)` verifies for no other `(p', m')`: a verifying
signature is the genuine one of what it is checked against, signatures do not collide, and the signing input
determines `(protected, payload)`. -/
theorem IdealSig.verify_other {SK PK : Type} {P : SigPrim SK PK} (hP : IdealSig P) (sk : SK) {p m p' m' : Bytes}
    (h : p' ≠ p ∨ m' ≠ m) : P.verify (P.pub sk) (signingInput p' m') (P.sign sk (signingInput p m)) = false :=
  Bool.eq_false_iff.2 fun hv =>
    have e := signingInput_inj (hP.collision_free sk _ _ (hP.unforgeable sk _ _ hv))
    h.elim (· e.1.symm) (· e.2.symm)

/-- Tamper: an object that differs from the signed one in the octets of the protected header or of
the payload (signature kept), or in the octets of the signature (rest kept), does not verify; nor
does the genuine object under another key. -/
theorem C16_tamper_jws {SK PK : Type} (P : SigPrim SK PK) (hP : IdealSig P) (sk : SK) (prot payload : Bytes)
    (o' : Jws) :
    let o := jwsSign P sk prot payload
    ((o'.prot ≠ o.prot ∨ o'.payload ≠ o.payload) → o'.sig = o.sig → jwsVerify P (P.pub sk) o' = err .generic) ∧
    (o'.sig ≠ o.sig → o'.prot = o.prot → o'.payload = o.payload → jwsVerify P (P.pub sk) o' = err .generic) ∧
    (∀ sk', P.pub sk ≠ P.pub sk' → jwsVerify P (P.pub sk') o = err .generic) := by
  intro o
  refine ⟨fun hd hs => jwsVerify_err ?_, fun hs hp hm => jwsVerify_err ?_, fun sk' hk => jwsVerify_err ?_⟩
  · rw [hs]; exact hP.verify_other sk hd
  · refine Bool.eq_false_iff.2 fun hv => hs ?_
    rw [hP.unforgeable sk _ _ hv, hp, hm]; rfl
  · exact hP.key_sep sk sk' _ hk

/-- ECDSA: tampering with the signature octets changes `(r, s)` (or the length, which is rejected
outright) — so the idealised primitive, which works on `(r, s)`, sees a different signature. -/
theorem C16_tamper_ecdsa_octets (size : Nat) (sig sig' : Bytes) (r s : Nat)
    (h : ecSigDecode size sig = ok (r, s)) (hne : sig' ≠ sig) :
    ecSigDecode size sig' = err .generic ∨ ∃ r' s', ecSigDecode size sig' = ok (r', s') ∧ (r', s') ≠ (r, s) := by
  by_cases hl : sig'.length = 2 * size
  · have h' := ecSigDecode_eq_ok.2 ⟨hl, rfl, rfl⟩
    exact .inr ⟨_, _, h', fun e => hne (ecSigDecode_inj size (e ▸ h') h)⟩
  · exact .inl (if_pos hl)

/-- Multi-signature JWS (JSON serialisation): every signer's key verifies the object to the original
payload, whatever the other signers, algorithms and protected headers are. -/
theorem C16_roundtrip_jws_multi {SK PK : Type} (P : SigPrim SK PK) (hP : IdealSig P)
    (signers : List (SK × Bytes)) (payload : Bytes) (sk : SK) (prot : Bytes) (hmem : (sk, prot) ∈ signers) :
    jwsVerifyMulti P (P.pub sk) (jwsSignMulti P signers payload) = ok payload :=
  if_pos (List.any_eq_true.2 ⟨_, List.mem_map.2 ⟨(sk, prot), hmem, rfl⟩, hP.verify_sign sk _⟩)

/-- … and a change to the protected header octets of ONE signature (its signature octets and all other
entries kept) makes verification under that signer's key fail, provided the other signers' keys are
different keys: a signature is only ever checked against its own protected header as received. -/
theorem C16_tamper_jws_multi {SK PK : Type} (P : SigPrim SK PK) (hP : IdealSig P)
    (pre post : List (SK × Bytes)) (sk : SK) (prot prot' payload : Bytes) (hne : prot' ≠ prot)
    (hkeys : ∀ s ∈ pre ++ post, P.pub s.1 ≠ P.pub sk) :
    let o := jwsSignMulti P (pre ++ (sk, prot) :: post) payload
    let o' : JwsMulti := ⟨payload, (jwsSignMulti P pre payload).sigs ++
      (⟨prot', P.sign sk (signingInput prot payload)⟩ : SigEntry) :: (jwsSignMulti P post payload).sigs⟩
    jwsVerifyMulti P (P.pub sk) o = ok payload ∧ jwsVerifyMulti P (P.pub sk) o' = err .generic := by
  intro o o'
  refine ⟨C16_roundtrip_jws_multi P hP _ payload sk prot (by simp), jwsVerifyMulti_err fun e he => ?_⟩
  simp only [o', jwsSignMulti, List.mem_append, List.mem_cons, List.mem_map] at he
  rcases he with ⟨s, hs, rfl⟩ | rfl | ⟨s, hs, rfl⟩
  · exact hP.key_sep s.1 sk _ (hkeys s (List.mem_append_left _ hs))
  · exact hP.verify_other sk (.inl hne)
  · exact hP.key_sep s.1 sk _ (hkeys s (List.mem_append_right _ hs))

/-! ### JWE: round trip and tamper -/

/-- Encrypt (any key management, any AEAD, with or without compression, with or without AAD),
then decrypt with the right key: exactly the original plaintext, and the AAD the object carries is
the (normalised) AAD given. Compact serialisation and parsing give the same object back. -/
theorem C16_roundtrip_jwe {EK DK : Type} (A : AeadPrim) (K : KeyMgmt EK DK) (z : Option Zip) (hz : zipLawful z)
    (dk : DK) (cek iv prot pt : Bytes) (aad : Option Bytes)
    (hK : IdealKeyMgmt K dk cek)
    (hA : IdealAead A cek iv (zipApply z pt)
            (jweEncrypt.bytesOfText (aadInput prot (normAad aad)))) :
    let o := jweEncrypt A K z (K.pub dk) cek iv prot pt aad
    jweDecrypt A K z dk o = ok pt ∧ o.aad = normAad aad ∧
    (aad = none → jweParse (jweCompact o) = ok o) := by
  intro o
  refine ⟨?_, rfl, ?_⟩
  · exact (jweDecrypt_of_open hK.unwrap_wrap hA.open_seal).trans (decompress_zipApply hz pt)
  · rintro rfl
    exact jweParse_jweCompact o

/-- To show that a key opens nothing, only the genuine key has to be looked at. -/
theorem IdealAead.open_none {A : AeadPrim} {k₀ iv pt a : Bytes} (hA : IdealAead A k₀ iv pt a) {k iv' ct' tag' a' : Bytes}
    (h : k = k₀ → A.openF k₀ iv' ct' tag' a' = none) : A.openF k iv' ct' tag' a' = none := by
  by_cases hk : k = k₀
  · rw [hk]; exact h hk
  · exact hA.wrong_key k _ _ _ _ hk

/-- Content that differs from the genuine one is not opened by the genuine CEK: `authentic`, and the AAD octets
determine the protected octets and the AAD. -/
theorem open_tampered_none (A : AeadPrim) (z : Option Zip) (cek iv prot pt : Bytes) (aad : Option Bytes)
    (hA : IdealAead A cek iv (zipApply z pt) (jweEncrypt.bytesOfText (aadInput prot (normAad aad))))
    (prot' iv' ct' tag' : Bytes) (aad' : Option Bytes)
    (hd : prot' ≠ prot ∨ aad' ≠ normAad aad ∨ iv' ≠ iv ∨
          ct' ≠ (A.sealF cek iv (zipApply z pt) (jweEncrypt.bytesOfText (aadInput prot (normAad aad)))).1 ∨
          tag' ≠ (A.sealF cek iv (zipApply z pt) (jweEncrypt.bytesOfText (aadInput prot (normAad aad)))).2) :
    A.openF cek iv' ct' tag' (jweEncrypt.bytesOfText (aadInput prot' aad')) = none := by
  cases hop : A.openF cek iv' ct' tag' (jweEncrypt.bytesOfText (aadInput prot' aad')) with
  | none => rfl
  | some p' =>
    obtain ⟨rfl, rfl, rfl, e⟩ := hA.authentic _ _ _ _ _ hop
    obtain ⟨rfl, rfl⟩ := bytesOfText_aadInput_inj e
    simp at hd

/-- Tamper: an object that differs from the genuine one in the octets of the protected header, the
AAD, the IV, the ciphertext or the tag does not decrypt; nor one that differs in the encrypted key;
nor the genuine object under another private key. -/
theorem C16_tamper_jwe {EK DK : Type} (A : AeadPrim) (K : KeyMgmt EK DK) (z : Option Zip)
    (dk : DK) (cek iv prot pt : Bytes) (aad : Option Bytes)
    (hK : IdealKeyMgmt K dk cek)
    (hA : IdealAead A cek iv (zipApply z pt)
            (jweEncrypt.bytesOfText (aadInput prot (normAad aad))))
    (o' : Jwe) :
    let o := jweEncrypt A K z (K.pub dk) cek iv prot pt aad
    ((o'.prot ≠ o.prot ∨ o'.aad ≠ o.aad ∨ o'.iv ≠ o.iv ∨ o'.ct ≠ o.ct ∨ o'.tag ≠ o.tag) → o'.ek = o.ek →
        jweDecrypt A K z dk o' = err .generic) ∧
    (o'.ek ≠ o.ek → jweDecrypt A K z dk o' = err .generic) ∧
    (∀ dk', K.pub dk' ≠ K.pub dk → jweDecrypt A K z dk' o = err .generic) := by
  intro o
  refine ⟨fun hd _ => ?_, fun hek => ?_, fun dk' hk => ?_⟩
  · exact jweDecrypt_err fun k _ => hA.open_none fun _ => open_tampered_none A z cek iv prot pt aad hA _ _ _ _ _ hd
  · exact jweDecrypt_err fun k hu => hA.open_none fun hc => absurd (hK.authentic _ (hc ▸ hu)) hek
  · exact jweDecrypt_err fun k hu => hA.open_none fun hc => absurd hc (hK.other_key dk' k hk hu)

/-! ### multi-recipient JWE: one content encryption, one encrypted key per recipient -/

/-- Round trip, any position: the recipient's genuine encrypted key may sit ANYWHERE among arbitrary other
entries (`pre`, `post`: other recipients' keys of any algorithm, or garbage). Whatever the caller's key makes of
the entries in front — an error, or a CEK that is not the CEK (RSA1_5 answers a foreign entry with a random
one) — decryption with the recipient's key yields exactly the original plaintext. -/
theorem C16_roundtrip_jwe_multi {EK DK : Type} (A : AeadPrim) (K : KeyMgmt EK DK) (z : Option Zip) (hz : zipLawful z)
    (dk : DK) (cek iv prot pt : Bytes) (aad : Option Bytes) (pre post : List Bytes)
    (hK : IdealKeyMgmt K dk cek)
    (hA : IdealAead A cek iv (zipApply z pt) (jweEncrypt.bytesOfText (aadInput prot (normAad aad)))) :
    let c := A.sealF cek iv (zipApply z pt) (jweEncrypt.bytesOfText (aadInput prot (normAad aad)))
    jweDecryptMulti A K z dk
      { prot := prot, iv := iv, ct := c.1, tag := c.2, aad := normAad aad,
        eks := pre ++ K.wrap (K.pub dk) cek :: post } = ok pt := by
  intro c
  rw [jweDecryptMulti_eq, jweDecryptLoop_ok (fun k => ?_) hK.unwrap_wrap hA.open_seal]
  · exact decompress_zipApply hz pt
  · -- the genuine content opens under the CEK only, and then to the (compressed) plaintext
    by_cases hk : k = cek
    · rw [hk]; exact .inr hA.open_seal
    · exact .inl (hA.wrong_key k _ _ _ _ hk)

/-- The same for the object `MultiEncrypter.Encrypt` builds: every recipient whose public key was added
decrypts to the original plaintext, whatever the other recipients are and in whatever order they were added. -/
theorem C16_roundtrip_jwe_multi_encrypt {EK DK : Type} (A : AeadPrim) (K : KeyMgmt EK DK) (z : Option Zip) (hz : zipLawful z)
    (dk : DK) (cek iv prot pt : Bytes) (aad : Option Bytes) (ekeys : List EK) (hmem : K.pub dk ∈ ekeys)
    (hK : IdealKeyMgmt K dk cek)
    (hA : IdealAead A cek iv (zipApply z pt) (jweEncrypt.bytesOfText (aadInput prot (normAad aad)))) :
    jweDecryptMulti A K z dk (jweEncryptMulti A K z ekeys cek iv prot pt aad) = ok pt := by
  obtain ⟨s, t, rfl⟩ := List.append_of_mem hmem
  have := C16_roundtrip_jwe_multi A K z hz dk cek iv prot pt aad (s.map (K.wrap · cek)) (t.map (K.wrap · cek)) hK hA
  simpa [jweEncryptMulti] using this

/-- Tamper, multi-recipient: (1) content that differs from the genuine one in the protected header, AAD, IV,
ciphertext or tag decrypts under NO key and NO list of encrypted keys; (2) genuine content whose entries are all
different from the caller's genuine encrypted key (its own entry changed in any bit, the others foreign) does not
decrypt under the caller's key. -/
theorem C16_tamper_jwe_multi {EK DK : Type} (A : AeadPrim) (K : KeyMgmt EK DK) (z : Option Zip)
    (dk : DK) (cek iv prot pt : Bytes) (aad : Option Bytes)
    (hK : IdealKeyMgmt K dk cek)
    (hA : IdealAead A cek iv (zipApply z pt) (jweEncrypt.bytesOfText (aadInput prot (normAad aad))))
    (o' : JweMulti) :
    let c := A.sealF cek iv (zipApply z pt) (jweEncrypt.bytesOfText (aadInput prot (normAad aad)))
    ((o'.prot ≠ prot ∨ o'.aad ≠ normAad aad ∨ o'.iv ≠ iv ∨ o'.ct ≠ c.1 ∨ o'.tag ≠ c.2) →
        ∀ dk' : DK, jweDecryptMulti A K z dk' o' = err .generic) ∧
    (o'.prot = prot → o'.aad = normAad aad → o'.iv = iv → o'.ct = c.1 → o'.tag = c.2 →
        (∀ e ∈ o'.eks, e ≠ K.wrap (K.pub dk) cek) → jweDecryptMulti A K z dk o' = err .generic) := by
  intro c
  refine ⟨fun hd dk' => ?_, fun _ _ _ _ _ hall => ?_⟩
  · exact jweDecryptMulti_err fun e _ k _ => hA.open_none fun _ =>
      open_tampered_none A z cek iv prot pt aad hA _ _ _ _ _ hd
  · exact jweDecryptMulti_err fun e he k hu => hA.open_none fun hc => absurd (hK.authentic e (hc ▸ hu)) (hall e he)

/-! ### the library's CBC-HMAC composition -/

/-- Idealised CBC mode and MAC: CBC decryption inverts encryption on whole blocks and keeps the
length; the (truncated) MAC is collision-free. -/
structure IdealCbc (P : CbcPrims) : Prop where
  dec_enc : ∀ k iv x, x.length % 16 = 0 → P.cbcDec k iv (P.cbcEnc k iv x) = x ∧ (P.cbcEnc k iv x).length = x.length
  mac_inj : ∀ k x y, P.mac k x = P.mac k y → x = y

/-- Seal then Open with the same keys, IV and AAD returns the plaintext (PKCS#7 + CBC + tag). -/
theorem cbc_hmac_roundtrip (P : CbcPrims) (hP : IdealCbc P) (ek mk iv pt aad : Bytes) :
    cbcOpen P ek mk iv (cbcSeal P ek mk iv pt aad).1 (cbcSeal P ek mk iv pt aad).2 aad = ok pt := by
  obtain ⟨hun, hmod, _, _⟩ := pkcs7_roundtrip 16 (by decide) (by decide) pt
  obtain ⟨hd, hl⟩ := hP.dec_enc ek iv (pad 16 pt) hmod
  simp only [cbcOpen, cbcSeal, ne_eq, not_true_eq_false, if_false, hl, hmod, hd, hun]

/-- Tamper at the level of the library's own AEAD: with the genuine tag, any change to AAD, IV
(16 bytes) or ciphertext is rejected by the tag comparison (the tag input is injective and the MAC
collision-free); with genuine AAD, IV and ciphertext, any change to the tag is rejected. -/
theorem cbc_hmac_tamper (P : CbcPrims) (hP : IdealCbc P) (ek mk iv pt aad : Bytes) (iv' ct' tag' aad' : Bytes)
    (hiv : iv.length = 16) (hiv' : iv'.length = 16) (ha : aad.length * 8 < 2 ^ 64) (ha' : aad'.length * 8 < 2 ^ 64) :
    let ct := (cbcSeal P ek mk iv pt aad).1
    let tag := (cbcSeal P ek mk iv pt aad).2
    ((aad' ≠ aad ∨ iv' ≠ iv ∨ ct' ≠ ct) → cbcOpen P ek mk iv' ct' tag aad' = err .generic) ∧
    (tag' ≠ tag → cbcOpen P ek mk iv ct tag' aad = err .generic) := by
  intro ct tag
  refine ⟨fun hd => if_pos fun hm => ?_, fun ht => if_pos fun h => ht h.symm⟩
  obtain ⟨rfl, rfl, rfl⟩ := cbc_tag_input_injective _ _ _ _ _ _ hiv' hiv ha' ha (hP.mac_inj _ _ _ hm)
  rcases hd with hd | hd | hd <;> exact hd rfl

/-! ### non-vacuity: every hypothesis bundle is inhabited, concrete instances of the statements -/

/-- injective text → octets encoding used by the example signature scheme -/
def exEnc (m : List Char) : Bytes := m.flatMap (fun c => be 4 c.toNat)

theorem exEnc_inj : ∀ m m' : List Char, exEnc m = exEnc m' → m = m'
  | [], [], _ => rfl
  | [], c :: r, h => by have := congrArg List.length h; simp [exEnc, be_length] at this; omega
  | c :: r, [], h => by have := congrArg List.length h; simp [exEnc, be_length] at this
  | c :: r, c' :: r', h => by
    have lt (c : Char) : c.toNat < 256 ^ 4 := by have := c.val.toNat_lt; show c.val.toNat < 256 ^ 4; omega
    obtain ⟨h1, h2⟩ := List.append_inj (show be 4 c.toNat ++ exEnc r = be 4 c'.toNat ++ exEnc r' from h)
      (by rw [be_length, be_length])
    rw [Char.ext (UInt32.toNat_inj.mp (be_inj (lt c) (lt c') h1)), exEnc_inj r r' h2]

/-- A (toy) signature scheme satisfying `IdealSig`: the signature is the key byte followed by an
injective encoding of the message. -/
def exSig : SigPrim UInt8 UInt8 where
  pub := id
  sign sk m := sk :: exEnc m
  verify pk m s := decide (s = pk :: exEnc m)

example : IdealSig exSig where
  verify_sign _ _ := decide_eq_true rfl
  unforgeable _ _ _ h := of_decide_eq_true h
  collision_free _ _ _ h := exEnc_inj _ _ (List.cons.inj h).2
  key_sep _ _ _ h := decide_eq_false fun e => h (List.cons.inj e).1

/-- An AEAD that knows exactly one genuine message satisfies `IdealAead` for it. -/
def exAead (k iv pt a : Bytes) : AeadPrim where
  sealF _ _ p _ := (p.reverse, [0x54])
  openF k' iv' ct' tag' a' := if k' = k ∧ iv' = iv ∧ ct' = pt.reverse ∧ tag' = [0x54] ∧ a' = a then some pt else none

example (k iv pt a : Bytes) : IdealAead (exAead k iv pt a) k iv pt a where
  open_seal := if_pos ⟨rfl, rfl, rfl, rfl, rfl⟩
  authentic _ _ _ _ _ h := (Option.ite_none_right_eq_some.1 h).1.2
  wrong_key _ _ _ _ _ hk := if_neg fun h => hk h.1

def exKm (dk : UInt8) (cek : Bytes) : KeyMgmt UInt8 UInt8 where
  pub := id
  wrap _ c := 0x77 :: c
  unwrap dk' ek' := if dk' = dk ∧ ek' = 0x77 :: cek then some cek else none

example (dk : UInt8) (cek : Bytes) : IdealKeyMgmt (exKm dk cek) dk cek where
  unwrap_wrap := if_pos ⟨rfl, rfl⟩
  authentic _ h := (Option.ite_none_right_eq_some.1 h).1.2
  other_key _ _ hk h := absurd (Option.ite_none_right_eq_some.1 h).1.1 hk

/-- An RSA1_5-like key management: a foreign encrypted key never fails, it yields some other CEK. -/
def exKm15 (dk : UInt8) (cek : Bytes) : KeyMgmt UInt8 UInt8 where
  pub := id
  wrap _ c := 0x77 :: c
  unwrap dk' ek' := if dk' = dk ∧ ek' = 0x77 :: cek then some cek else some [0xBA, 0x0D]

example : IdealKeyMgmt (exKm15 5 [1, 2]) 5 [1, 2] where
  unwrap_wrap := by decide
  authentic ek' h := by
    by_cases hc : (5 : UInt8) = 5 ∧ ek' = 0x77 :: [1, 2]
    · exact hc.2
    · exact absurd ((if_neg hc).symm.trans h) (by decide)
  other_key dk' c hne h := by
    cases (if_neg fun hc => hne hc.1).symm.trans h; decide

/-- The recipient's entry behind two foreign ones (the first answered with a wrong CEK): still the plaintext;
and with the recipient's entry changed in one bit: an error. -/
example : jweDecryptMulti (exAead [1, 2] [9] [7, 7] (jweEncrypt.bytesOfText (aadInput [3] none))) (exKm15 5 [1, 2]) none 5
    ⟨[3], [9], [7, 7], [0x54], none, [[0xAA], [0x77, 0xFF], [0x77, 1, 2]]⟩ = ok [7, 7] ∧
  jweDecryptMulti (exAead [1, 2] [9] [7, 7] (jweEncrypt.bytesOfText (aadInput [3] none))) (exKm15 5 [1, 2]) none 5
    ⟨[3], [9], [7, 7], [0x54], none, [[0xAA], [0x77, 0xFF], [0x77, 1, 3]]⟩ = err .generic := by decide +kernel

example : IdealCbc { cbcEnc := fun _ _ x => x, cbcDec := fun _ _ x => x, mac := fun _ x => x } where
  dec_enc := by intro k iv x _; exact ⟨rfl, rfl⟩
  mac_inj := by intro k x y h; exact h

example : ZipLawful { deflate := fun x => 0 :: x, inflate := fun x => some x.tail } := by
  intro x; rfl

example : BlockPerm (toyEnc 3) (toyDec 3) := toy_perm 3

/-- RFC 4648 test vectors through the model. -/
example : b64 [0x66, 0x6f, 0x6f, 0x62, 0x61] = "Zm9vYmE".toList ∧ unb64 "Zm9vYmE".toList = ok [0x66, 0x6f, 0x6f, 0x62, 0x61] ∧
    unb64 "Zm9vYmF".toList = ok [0x66, 0x6f, 0x6f, 0x62, 0x61] ∧ b64 [0xfb, 0xff] = "-_8".toList := by
  have enc : b64 [0x66, 0x6f, 0x6f, 0x62, 0x61] = "Zm9vYmE".toList ∧ b64 [0xfb, 0xff] = "-_8".toList := by
    rw [String.toList_ofList, String.toList_ofList]
    simp only [b64, encChar, alphabet_eq]
    decide +kernel
  -- the lenient spelling: its last character `F` is sextet 5, of which `unb64_three` drops the low two bits
  have len : "Zm9vYmF".toList = [encChar 25, encChar 38, encChar 61, encChar 47, encChar 24, encChar 38, encChar 5] := by
    rw [String.toList_ofList]
    simp only [encChar, alphabet_eq]
    decide +kernel
  refine ⟨enc.1, enc.1 ▸ unb64_b64 _, ?_, enc.2⟩
  rw [len, unb64_quad (by decide) (by decide) (by decide) (by decide), unb64_three (by decide) (by decide) (by decide)]
  rfl
set_option maxRecDepth 8192 in
example : canonLast "Zm9vYmF".toList = "Zm9vYmE".toList := by
  rw [String.toList_ofList, String.toList_ofList, canonLast, canonLast, clearLow, sextet, alphabet_eq]
  simp only [encChar, alphabet_eq]
  decide +kernel
example : ∀ c ∈ b64 [0x66, 0x6f], B64Char c := b64_chars _
example : compactSerialize [[1], [], [2, 3]] = "AQ..AgM".toList := by
  rw [String.toList_ofList]
  simp only [compactSerialize, List.map, b64, encChar, alphabet_eq]
  decide +kernel
example : pad 16 [1, 2, 3] = [1, 2, 3, 13, 13, 13, 13, 13, 13, 13, 13, 13, 13, 13, 13, 13] := by decide
example : ecSigEncode 4 1 258 = ok [0, 0, 0, 1, 0, 0, 1, 2] := rfl
/-- RFC 3394 shape with the toy cipher: 16-byte key → 24 bytes, and back. -/
example : (keyWrap (toyEnc 3) (List.replicate 16 7)).bind (keyUnwrap (toyDec 3)) = ok (List.replicate 16 7) := by
  obtain ⟨w, h1, _, h2⟩ := keywrap_roundtrip _ _ (toy_perm 3) (List.replicate 16 7) (by decide)
  rw [h1]; exact h2

end Oryx.Props.C16
