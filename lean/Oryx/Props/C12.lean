/-
  C12 — AVC configuration records, samples and NAL units round-trip in ISO layout.
  Only property statements, their proofs from the helper lemmas (Oryx/Proofs/Avc.lean), and non-vacuity
  examples. Model: Oryx/Model/Avc.lean (avc/avc.go as repaired: F12, the reserved bits are written); independent writer:
  Oryx/Spec/Avc.lean (ISO/IEC 14496-15 §5.2.4.1.1, 2012 edition).
-/
import Oryx.Proofs.Avc
import Oryx.Gen.Avc
namespace Oryx.Props.C12
open Oryx Oryx.Res Oryx.Avc

/-- Domain of the property for records: profile is one byte, NAL length size 1..4, up to 31 SPS and
255 PPS, each NAL unit 1..65535 bytes with in-range header fields. -/
def RecordWF (r : Record) : Prop :=
  r.profile < 256 ∧ r.lsm1 < 4 ∧ r.sps.length < 32 ∧ r.pps.length < 256 ∧
  (∀ x ∈ r.sps, x.Fits16) ∧ (∀ x ∈ r.pps, x.Fits16)

instance (r : Record) : Decidable (RecordWF r) := by unfold RecordWF; exact inferInstance

/-- Every NAL unit unmarshals from its marshalled bytes to an equal value. -/
theorem nalu_roundtrip (n : Nalu) (h : n.WF) : naluUnmarshal (naluMarshal n) = ok n :=
  nalu_rt n h

/-- All 256 header bytes: the decoded fields are in range, and a header with forbidden_zero_bit = 0
re-encodes to the same byte (canonical encodings reproduce). -/
theorem nalu_header_all256 (b : UInt8) (rest : Bytes) :
    ∃ n, naluUnmarshal (b :: rest) = ok n ∧ n.WF ∧ (b < 128 → naluMarshal n = b :: rest) := by
  obtain ⟨hwf, hre⟩ := header_bits_repack b
  exact ⟨_, rfl, hwf, fun hb => by simp [naluMarshal, headerByte, hre hb]⟩

theorem u8_ofNat_and3 (x : UInt8) (h : x < 4) : x &&& 0x03 = x := by
  revert x; refine forall_u8_lt 4 ?_; decide +kernel

theorem sps_count_byte (n : Nat) (h : n < 32) :
    ((0xe0 : UInt8) ||| (UInt8.ofNat n &&& 0x1f)) &&& 0x1f = UInt8.ofNat n ∧
    (UInt8.ofNat n).toNat = n :=
  ⟨(sps_count_bits n h).1, (sps_count_bits n h).2.1⟩

theorem lsm_byte (x : UInt8) (h : x < 4) : ((0xfc : UInt8) ||| (x &&& 0x03)) &&& 0x03 = x :=
  (lsm_bits x h).1

/-- Every configuration record in the domain unmarshals from its marshalled bytes — followed by ANY
trailing bytes, which the reader ignores (that is where a conformant writer puts the High-profile block) —
to an equal value. -/
theorem record_roundtrip_tail (r : Record) (h : RecordWF r) (tail : Bytes) :
    recordUnmarshal (recordMarshal r ++ tail) = ok r := by
  obtain ⟨hp, hl, hs, hpp, hsps, hpps⟩ := h
  obtain ⟨hc1, hc2⟩ := sps_count_byte r.sps.length hs
  have hpn : (UInt8.ofNat r.pps.length).toNat = r.pps.length := UInt8.toNat_ofNat_of_lt' hpp
  have hprof : (UInt8.ofNat r.profile).toNat = r.profile := UInt8.toNat_ofNat_of_lt' hp
  simp only [recordMarshal, recordUnmarshal, List.cons_append, List.nil_append, List.append_assoc]
  rw [hc1, hc2, readSets_setsMarshal r.sps _ hsps]
  simp only [Res.bind_ok]
  rw [hpn, readSets_setsMarshal r.pps tail hpps]
  simp only [Res.bind_ok, Res.pure_eq, lsm_byte r.lsm1 hl, hprof]

theorem record_roundtrip (r : Record) (h : RecordWF r) : recordUnmarshal (recordMarshal r) = ok r := by
  have := record_roundtrip_tail r h []
  rwa [List.append_nil] at this

/-- Every length-prefixed sample, for each NAL length size 1..4, round-trips. -/
theorem sample_roundtrip (n : Nat) (_h1 : 1 ≤ n) (h4 : n ≤ 4) (xs : List Nalu)
    (h : ∀ x ∈ xs, x.WF ∧ 1 + x.data.length < 256 ^ n) :
    sampleUnmarshal n (sampleMarshal n xs) = ok xs :=
  sampleLoop_sampleMarshal n (by omega) xs _ h (Nat.le_refl _)

/-- The marshalled record is byte for byte the ISO/IEC 14496-15 §5.2.4.1.1 layout up to and including the
picture parameter sets, reserved bits included — for every profile. -/
theorem record_is_spec_base (r : Record) (h : RecordWF r) (hv : r.version = 1) :
    recordMarshal r =
      Spec.Avc.recordBase (UInt8.ofNat r.profile) r.compat r.level r.lsm1.toNat
        (r.sps.map naluMarshal) (r.pps.map naluMarshal) := by
  obtain ⟨_, hl, hs, _, _, _⟩ := h
  simp only [recordMarshal, Spec.Avc.recordBase, hv, (lsm_bits _ hl).2, (sps_count_bits _ hs).2.2,
    setsMarshal_is_spec, List.length_map]

/-- `record_is_spec`, PARTIAL: the whole record is the spec's for every profile OTHER than the four High
profiles (100, 110, 122, 144). For those the 2012 edition appends chroma format, bit depths and the SPS
extensions, which this library neither stores nor writes — see `high_profile_ext_witness` (known finding K6:
the values live in the SPS, which the library does not parse, so no small safe repair exists). -/
theorem record_is_spec_partial (r : Record) (h : RecordWF r) (hv : r.version = 1)
    (hprof : Spec.Avc.needsExt (UInt8.ofNat r.profile) = false) :
    recordMarshal r =
      Spec.Avc.record (UInt8.ofNat r.profile) r.compat r.level r.lsm1.toNat
        (r.sps.map naluMarshal) (r.pps.map naluMarshal) none ∧
    Spec.Avc.ExtConformant (UInt8.ofNat r.profile) none := by
  refine ⟨?_, by simp [Spec.Avc.ExtConformant, hprof]⟩
  simp only [Spec.Avc.record, List.append_nil]
  exact record_is_spec_base r h hv

/-- Negative witness (K6): for a High profile EVERY conformant encoding is at least four bytes longer than
what the library marshals — the prescribed block is missing, whatever its values. -/
theorem high_profile_ext_witness (r : Record) (h : RecordWF r) (hv : r.version = 1)
    (ext : Option Spec.Avc.HighExt) (hprof : Spec.Avc.needsExt (UInt8.ofNat r.profile) = true)
    (hc : Spec.Avc.ExtConformant (UInt8.ofNat r.profile) ext) :
    (recordMarshal r).length + 4 ≤
      (Spec.Avc.record (UInt8.ofNat r.profile) r.compat r.level r.lsm1.toNat
        (r.sps.map naluMarshal) (r.pps.map naluMarshal) ext).length ∧
    recordMarshal r ≠
      Spec.Avc.record (UInt8.ofNat r.profile) r.compat r.level r.lsm1.toNat
        (r.sps.map naluMarshal) (r.pps.map naluMarshal) ext := by
  have longer : ∀ {a b : Bytes}, a.length + 4 ≤ b.length → a.length + 4 ≤ b.length ∧ a ≠ b :=
    fun hl => ⟨hl, fun e => by rw [e] at hl; omega⟩
  cases ext with
  | none => simp [Spec.Avc.ExtConformant, hprof] at hc
  | some e =>
    apply longer
    simp only [Spec.Avc.record, ← record_is_spec_base r h hv, List.length_append, Spec.Avc.extBytes,
      List.length_cons, List.length_nil]
    omega

/-- Records written by an independent conformant writer — any profile, with the High-profile block when the
profile calls for it, NAL units written per ISO/IEC 14496-10 §7.3.1 — are read back to the same values. -/
theorem spec_record_read (r : Record) (h : RecordWF r) (hv : r.version = 1) (ext : Option Spec.Avc.HighExt) :
    recordUnmarshal (Spec.Avc.record (UInt8.ofNat r.profile) r.compat r.level r.lsm1.toNat
      (r.sps.map naluMarshal) (r.pps.map naluMarshal) ext) = ok r := by
  simp only [Spec.Avc.record, ← record_is_spec_base r h hv]
  exact record_roundtrip_tail r h _

/-- Canonical round trip: marshalling what was unmarshalled from a conformant record reproduces it, for
the profiles without the extension block. -/
theorem canonical_record_rt (r : Record) (h : RecordWF r) (hv : r.version = 1)
    (hprof : Spec.Avc.needsExt (UInt8.ofNat r.profile) = false) :
    let bs := Spec.Avc.record (UInt8.ofNat r.profile) r.compat r.level r.lsm1.toNat
                (r.sps.map naluMarshal) (r.pps.map naluMarshal) none
    recordUnmarshal bs = ok r ∧ recordMarshal r = bs :=
  ⟨spec_record_read r h hv none, (record_is_spec_partial r h hv hprof).1⟩

/-- The library's NAL unit bytes are the spec's (header = ref_idc·32 + type). -/
theorem nalu_is_spec (n : Nalu) (h : n.WF) :
    naluMarshal n = Spec.Avc.nalUnit n.refIdc.toNat n.ty.toNat n.data := by
  simp only [naluMarshal, headerByte, Spec.Avc.nalUnit, (header_bits n.refIdc h.1 n.ty h.2).2.2]

/-- C07 for this package: no byte string makes a decoder panic (for the sample decoder this also shows
the loop's fuel is never exhausted, i.e. it terminates after at most `len` iterations). -/
theorem decoders_never_panic (bs : Bytes) :
    naluUnmarshal bs ≠ .panic ∧ recordUnmarshal bs ≠ .panic ∧
    ∀ n, 1 ≤ n → n ≤ 7 → sampleUnmarshal n bs ≠ .panic :=
  ⟨(naluUnmarshal_sat bs).ne_panic, (recordUnmarshal_sat bs).ne_panic,
   fun n hn hn7 => sampleLoop_ne_panic n hn hn7 _ bs (Nat.le_refl _)⟩

/-- The String() helpers of the package (translated mechanically from the Go source on every run) are
total over the whole range of their integer types — `NALUType`/`AVCLevel` are uint8, `AVCProfile` is uint16;
the statement is for every natural number. A helper rewritten as an index into a table would make the
generated definition a checked lookup and this theorem false for the out-of-range values. -/
theorem enum_helpers_total (v : Nat) :
    (Gen.Avc.NALUType_String v).isPanic = false ∧ (Gen.Avc.AVCLevel_String v).isPanic = false ∧
    (Gen.Avc.AVCProfile_String v).isPanic = false := by
  refine ⟨?_, ?_, ?_⟩
  · simp only [Gen.Avc.NALUType_String, Res.isPanic_ite, Res.isPanic_ok, ite_self]
  · simp only [Gen.Avc.AVCLevel_String, Res.isPanic_ite, Res.isPanic_ok, ite_self]
  · simp only [Gen.Avc.AVCProfile_String, Res.isPanic_ite, Res.isPanic_ok, ite_self]

example : "AVCLevel_String" ∈ Gen.Avc.translatedHelpers ∧ "AVCProfile_String" ∈ Gen.Avc.translatedHelpers ∧
    "NALUType_String" ∈ Gen.Avc.translatedHelpers := by
  simp only [Gen.Avc.translatedHelpers, List.mem_cons, true_or, or_true, and_self]

/-! ### non-vacuity: concrete inhabitants of the hypotheses -/

def exNalu : Nalu := { refIdc := 3, ty := 7, data := [0x42, 0x00, 0x1e] }
def exRecord : Record :=
  { version := 1, profile := 100, compat := 0, level := 31, lsm1 := 3,
    sps := [exNalu], pps := [{ refIdc := 3, ty := 8, data := [0xce] }, { refIdc := 0, ty := 8, data := [] }] }

example : exNalu.WF := by decide
example : RecordWF exRecord := by decide
example : Spec.Avc.needsExt (UInt8.ofNat exRecord.profile) = true := by decide  -- the example is a High-profile record
example : Spec.Avc.ExtConformant 100 (some ⟨1, 0, 0, []⟩) ∧ Spec.Avc.ExtConformant 66 none := by
  unfold Spec.Avc.ExtConformant; decide
example : Spec.Avc.record 100 0 31 3 [[0x67, 0x64]] [[0x68]] (some ⟨1, 0, 0, []⟩) =
    [1, 100, 0, 31, 0xff, 0xe1, 0, 2, 0x67, 0x64, 1, 0, 1, 0x68, 0xfd, 0xf8, 0xf8, 0] := by decide +kernel
example : recordMarshal exRecord =
    [1, 100, 0, 31, 0xff, 0xe1, 0, 4, 0x67, 0x42, 0, 0x1e, 2, 0, 2, 0x68, 0xce, 0, 1, 0x08] := by decide +kernel
example : ∀ x ∈ [exNalu], x.WF ∧ 1 + x.data.length < 256 ^ 1 := by decide

/-- Outside the property's domain (NAL length sizes 1..4, all a configuration record's two bits can express):
with an EIGHT-byte length field a length of 2^63 or more becomes a negative `int`, passes `len(b) < int(length)`
and the slice expression panics. The model follows the code there too (tied by the correspondence run for
sizes 5..8); `decoders_never_panic` therefore stops at 7. -/
theorem sample_len8_witness : sampleUnmarshal 8 [0x80, 0, 0, 0, 0, 0, 0, 0, 0x65] = .panic := by decide

end Oryx.Props.C12
