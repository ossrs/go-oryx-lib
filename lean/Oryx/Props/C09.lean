/-
  C09 — FLV files written are read back identically and follow the FLV layout.
  Only property statements, their proofs from the helper lemmas (Oryx/Proofs/Flv.lean), and
  non-vacuity examples. Model: Oryx/Model/Flv.lean (flv/flv.go as repaired, fix F20 included);
  independent writer: Oryx/Spec/Flv.lean (video_file_format_spec_v10, Annex E).

  Reader segmentation: the demuxer touches its `io.Reader` only through `io.CopyN`; the model's stream is
  the byte string the reader still delivers, so "whatever the reader's segmentation" is `io.CopyN`'s
  contract (recorded assumption, exercised by the 1-byte / seeded-cut / data+EOF readers of `corr C09`).
-/
import Oryx.Proofs.Flv
namespace Oryx.Props.C09
open Oryx Oryx.Res Oryx.Flv

/-- The bytes the muxer writes are exactly the FLV version 1 layout of Annex E, as produced by the
independent writer `Spec.Flv.file`: for all four flag combinations, every tag type byte, every `uint32`
timestamp and every body below 2^24 bytes (and each such tag is a well-formed tag of the standard). -/
theorem mux_is_spec (hasVideo hasAudio : Bool) (tags : List Tag) (h : ∀ t ∈ tags, t.WF) :
    (∀ t ∈ tags.map Tag.toSpec, t.WF) ∧
    mux hasVideo hasAudio tags = Spec.Flv.file hasAudio hasVideo (tags.map Tag.toSpec) :=
  ⟨List.forall_mem_map.mpr fun x hx => Tag.toSpec_wf (h x hx), mux_eq_spec hasVideo hasAudio tags⟩

/-- Round trip: any flags and any tag sequence written by the muxer come back from the demuxer in order
with identical type, timestamp, size and body; then the reader ends (`io.EOF`). Version read is 1. -/
theorem demux_mux (hasVideo hasAudio : Bool) (tags : List Tag) (h : ∀ t ∈ tags, t.WF) :
    demux (mux hasVideo hasAudio tags) =
      ok ({ version := 1, hasVideo := hasVideo, hasAudio := hasAudio }, tags, .err .eof) :=
  demux_mux_ok hasVideo hasAudio tags h

/-- Files produced by the independent writer of the layout are demuxed to the same tags. -/
theorem demux_spec (audio video : Bool) (tags : List Spec.Flv.Tag) (h : ∀ t ∈ tags, t.WF) :
    demux (Spec.Flv.file audio video tags) =
      ok ({ version := 1, hasVideo := video, hasAudio := audio }, tags.map Tag.ofSpec, .err .eof) := by
  have e : (tags.map Tag.ofSpec).map Tag.toSpec = tags := by
    rw [List.map_map]
    exact (List.map_congr_left fun t ht => Tag.toSpec_ofSpec (h t ht)).trans (List.map_id tags)
  have := demux_mux_ok video audio (tags.map Tag.ofSpec)
    (List.forall_mem_map.mpr fun x hx => Tag.ofSpec_wf (h x hx))
  rwa [mux_eq_spec, e] at this

/-- Each muxed tag is framed: the size read from the header is the body length, and reading one tag
from `writeTag t ++ rest` leaves exactly `rest` (so PreviousTagSize is skipped, never misparsed). -/
theorem tag_frame (t : Tag) (rest : Bytes) (h : t.WF) :
    readTagHeader (writeTag t ++ rest) =
      ok ({ ty := t.ty, size := t.body.length, ts := t.ts }, t.body ++ prevTagSize t.body.length ++ rest) ∧
    readTagFull (writeTag t ++ rest) = ok (t, rest) := by
  refine ⟨?_, readTagFull_writeTag t rest h⟩
  unfold writeTag
  rw [List.append_assoc, List.append_assoc, readTagHeader_tagHeader _ _ _ _ h.1 h.2, List.append_assoc]

/-- Truncation at ANY byte offset `k` of a muxed file: fewer than 13 bytes give `io.EOF` from
`ReadHeader`; otherwise the demuxer returns exactly the tags lying wholly inside the first `k` bytes —
a prefix of the written tags, in order — and then `io.EOF`. Nothing truncated, duplicated or fabricated;
an incomplete tag is never returned. (The cut shape C08 reuses.) -/
theorem demux_truncated (hasVideo hasAudio : Bool) (tags : List Tag) (h : ∀ t ∈ tags, t.WF) (k : Nat) :
    demux ((mux hasVideo hasAudio tags).take k) =
      (if k < 13 then err .eof
       else ok ({ version := 1, hasVideo := hasVideo, hasAudio := hasAudio }, wholeTags (k - 13) tags, .err .eof)) ∧
    wholeTags (k - 13) tags <+: tags :=
  ⟨demux_cut hasVideo hasAudio tags h k, wholeTags_prefix _ _⟩

/-- No input makes the demuxer panic: not the header reader, not the tag-header reader, not `ReadTag`
for ANY size argument (fix F20), not the whole-file loop — whose fuel is never exhausted, i.e. it
terminates after at most `len/15` tags with an error class. -/
theorem demux_never_panics (s : Bytes) :
    readHeader s ≠ .panic ∧ readTagHeader s ≠ .panic ∧ (∀ size, readTag size s ≠ .panic) ∧
    demux s ≠ .panic ∧ (∀ h ts st, demux s = ok (h, ts, st) → st ≠ .panic) :=
  ⟨(readHeader_sat s).ne_panic, (readTagHeader_sat s).ne_panic, fun n => readTag_ne_panic n s, (demux_sat s).ne_panic,
   fun _ _ _ e => (demux_sat s).of_ok e⟩

/-- Short input is always `io.EOF` (the `io.CopyN` rule), never a value: fewer than 13 / 11 / size+4 bytes. -/
theorem short_input_is_eof (s : Bytes) :
    (s.length < 13 → readHeader s = err .eof) ∧ (s.length < 11 → readTagHeader s = err .eof) ∧
    (∀ size, s.length < size + 4 → readTag size s = err .eof) :=
  ⟨readHeader_short, readTagHeader_short, fun _ => readTag_short⟩

/-! ### non-vacuity: concrete inhabitants of the hypotheses, boundary values included -/

def exTags : List Tag :=
  [{ ty := 9, ts := 16777216, body := [0x17, 0x00] }, { ty := 8, ts := 4294967295, body := [] },
   { ty := 18, ts := 16777215, body := [1, 2, 3] }]

example : ∀ t ∈ exTags, t.WF := by decide
example : ∀ t ∈ exTags.map Tag.toSpec, t.WF := by decide
example : mux true true [{ ty := 9, ts := 0x01000002, body := [0xaa] }] =
    [0x46, 0x4c, 0x56, 1, 5, 0, 0, 0, 9, 0, 0, 0, 0,
     9, 0, 0, 1, 0, 0, 2, 1, 0, 0, 0, 0xaa, 0, 0, 0, 12] := by decide +kernel
example : demux (mux false true exTags) = ok (⟨1, false, true⟩, exTags, .err .eof) := by decide +kernel
example : wholeTags (47 - 13) exTags = exTags.take 2 ∧ (mux false true exTags).length = 63 := by decide +kernel
example : demux ((mux false true exTags).take 47) = ok (⟨1, false, true⟩, exTags.take 2, .err .eof) := by decide +kernel

end Oryx.Props.C09
