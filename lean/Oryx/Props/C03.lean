/-
  C03 — RTMP packets survive encode, wire and decode with the right type.
  Only property statements, their short proofs from the helper lemmas (Oryx/Proofs/RtmpPkt*.lean), and
  non-vacuity examples. Model: Oryx/Model/RtmpPkt.lean = the packet layer of rtmp/rtmp.go after the
  repair of F20 (`fix: rtmp: a call packet decoded without a command object has none`).
-/
/-
  Scope (what the statements do and do not carry):
  * every clause of the property is proved in full for the model (no `_partial` theorem); `C03_holds`
    collects them, `wire_dispatch` is the same over the bytes on the wire (C01's `write_read_one`).
  * `wire_dispatch` assumes a marshalled packet shorter than 2^24 bytes (the 3-byte length field of the
    chunk header; C01's domain) and reports the stream id as `uint32(streamID)`.
  * `ExpectPacket`/`ExpectMessage` are modelled over the list of messages `ReadMessage` delivers (C01: the
    messages written, in order); `reflect` assignability is equality of the concrete packet type.
  * `objectCallPacket.CommandObject` is assumed allocated (a nil pointer panics in `Size()`; both
    constructors allocate it and nothing resets it).
  * the round-trip domain (`Packet.WF`) excludes exactly what the wire cannot carry: strings above 65535
    bytes, a missing command object followed by further fields, a connect whose name / id are not
    `connect` / 1.0 (its decoder rejects them), `EventData ≥ 256` of the 1-byte event, a non-zero
    `ExtraData` of an event that does not carry it.
-/
import Oryx.Proofs.RtmpPktDispatch
import Oryx.Proofs.RtmpPktTxn
namespace Oryx.Props.C03
open Oryx Oryx.Res Oryx.Amf0 Oryx.Rtmp Oryx.RtmpPkt

/-- Go type name of each packet kind (for the gate on `ctorKind` below). -/
def goTypeName : Kind → String
  | .connect => "ConnectAppPacket" | .connectRes => "ConnectAppResPacket" | .createStream => "CreateStreamPacket"
  | .createStreamRes => "CreateStreamResPacket" | .publish => "PublishPacket" | .play => "PlayPacket" | .call => "CallPacket"
  | .setChunkSize => "SetChunkSize" | .winAck => "WindowAcknowledgementSize" | .setPeerBw => "SetPeerBandwidth"
  | .userControl => "UserControl"

/-! ### gating obligations on the regenerated tables

The model is written against the switch arms, constants and facts the translator reads from the Go
source on every run; these examples pin what the theorems below were proved for. -/

-- `DecodeMessage`: message type → constructor (all 256 message types, exhaustively)
example : ∀ t : Fin 256, Gen.Rtmp.decodeMessageArm t.val =
    (if t.val = 1 then .NewSetChunkSize else if t.val = 5 then .NewWindowAcknowledgementSize
     else if t.val = 6 then .NewSetPeerBandwidth else if t.val = 4 then .NewUserControl
     else if t.val = 20 ∨ t.val = 17 ∨ t.val = 18 ∨ t.val = 15 then .parseAMFObject else .rejected) := by decide +kernel
example : ∀ t : Fin 256, Gen.Rtmp.decodeMessageSkipsOneByte t.val = decide (t.val = 17 ∨ t.val = 15) := by decide +kernel
-- `parseAMFObject`: command name → constructor; request name → response constructor
example : Gen.Rtmp.parseCommandArm Gen.Rtmp.commandResultBytes = .response := by decide
example : Gen.Rtmp.parseCommandArm Gen.Rtmp.commandErrorBytes = .response := by decide
example : Gen.Rtmp.parseCommandArm Gen.Rtmp.commandConnectBytes = .NewConnectAppPacket := by decide
example : Gen.Rtmp.parseCommandArm Gen.Rtmp.commandPublishBytes = .NewPublishPacket := by decide
example : Gen.Rtmp.parseCommandArm Gen.Rtmp.commandPlayBytes = .NewCallPacket := by decide
example : Gen.Rtmp.parseCommandArm Gen.Rtmp.commandCreateStreamBytes = .NewCallPacket := by decide
example : Gen.Rtmp.parseCommandArm Gen.Rtmp.commandCloseStreamBytes = .NewCallPacket := by decide
example : Gen.Rtmp.parseResponseArm Gen.Rtmp.commandConnectBytes = .NewConnectAppResPacket := by decide
example : Gen.Rtmp.parseResponseArm Gen.Rtmp.commandCreateStreamBytes = .NewCreateStreamResPacket := by decide
example : Gen.Rtmp.parseResponseArm Gen.Rtmp.commandPlayBytes = .rejected := by decide
-- the model's constructor → packet type map is the source's
example : ∀ c : Gen.Rtmp.Ctor, (ctorKind c).map goTypeName = (if Gen.Rtmp.ctorGoType c = "" then none else some (Gen.Rtmp.ctorGoType c)) := by
  intro c; cases c <;> simp [ctorKind, goTypeName, Gen.Rtmp.ctorGoType]
-- `BetterCid()` / `Type()` of every packet type
example : (Kind.connect.msgType, Kind.connectRes.msgType, Kind.createStream.msgType, Kind.createStreamRes.msgType,
           Kind.publish.msgType, Kind.play.msgType, Kind.call.msgType) = (20, 20, 20, 20, 20, 20, 20) := by decide
example : (Kind.setChunkSize.msgType, Kind.winAck.msgType, Kind.setPeerBw.msgType, Kind.userControl.msgType) = (1, 5, 6, 4) := by decide
example : ∀ k : Kind, k.cid = (if k.msgType = 20 then 3 else 2) := by intro k; cases k <;> decide
-- `onPacketWriten`: which packets register a transaction, and when
example : (Gen.Rtmp.onPacketWritenRegisters_ConnectAppPacket, Gen.Rtmp.onPacketWritenRegisters_CreateStreamPacket) = (true, true) := by decide
example : (Gen.Rtmp.onPacketWritenRegisters_ConnectAppResPacket, Gen.Rtmp.onPacketWritenRegisters_CreateStreamResPacket,
           Gen.Rtmp.onPacketWritenRegisters_PublishPacket, Gen.Rtmp.onPacketWritenRegisters_PlayPacket,
           Gen.Rtmp.onPacketWritenRegisters_CallPacket) = (false, false, false, false, false) := by decide
example : (Gen.Rtmp.onPacketWritenRegisters_SetChunkSize, Gen.Rtmp.onPacketWritenRegisters_WindowAcknowledgementSize,
           Gen.Rtmp.onPacketWritenRegisters_SetPeerBandwidth, Gen.Rtmp.onPacketWritenRegisters_UserControl) = (false, false, false, false) := by decide
example : Gen.Rtmp.onPacketWritenCondition = "tid > 0 && len(name) > 0" := rfl
example : Gen.Rtmp.txnOrder = .registerThenWrite := by decide
-- the two distinguished user-control events
example : (Gen.Rtmp.EventTypeFmsEvent0, Gen.Rtmp.EventTypeSetBufferLength) = (0x1a, 3) := by decide

/-- Marshalling yields exactly `Size()` bytes — for EVERY packet value (no well-formedness needed). -/
theorem marshal_len (p : Packet) : p.marshal.length = p.size := marshal_length p

/-- Unmarshalling the marshalled bytes into a fresh packet of the same type yields equal field values
— every well-formed packet: arbitrary well-formed AMF0 trees as command object / arguments (C05's round
trip), arbitrary strings ≤ 65535 bytes, arbitrary transaction-id bit patterns (NaN included), optional
trailing fields present only after the preceding ones. -/
theorem unmarshal_marshal (p : Packet) (h : p.WF) : unmarshal p.kind p.marshal = ok p :=
  RtmpPkt.unmarshal_marshal p h

/-- … hence it re-marshals identically and reports the same `Size()`. -/
theorem remarshal (p : Packet) (h : p.WF) :
    ∃ q, unmarshal p.kind p.marshal = ok q ∧ q.marshal = p.marshal ∧ q.size = p.marshal.length :=
  ⟨p, unmarshal_marshal p h, rfl, (marshal_len p).symm⟩

/-- All 65 536 user-control event types: the body is 1 byte for `EventTypeFmsEvent0` (0x1a), 8 bytes
for `EventTypeSetBufferLength` (3) and 4 bytes otherwise, and the packet round-trips (also when more
bytes follow). Structured proof on the two distinguished constants. -/
theorem userControl_all_events (evt : Nat) (_he : evt < 65536) (d x : Nat) (h : (Packet.userControl evt d x).WF) :
    (Packet.userControl evt d x).marshal.length =
      (if evt = Gen.Rtmp.EventTypeFmsEvent0 then 2 + 1
       else if evt = Gen.Rtmp.EventTypeSetBufferLength then 2 + 8 else 2 + 4) ∧
    ∀ rest, unmarshal .userControl ((Packet.userControl evt d x).marshal ++ rest) = ok (.userControl evt d x) := by
  refine ⟨?_, userControl_roundtrip evt d x h⟩
  rw [userControl_marshal_length]
  unfold userControlSize
  split
  · next hf => rw [if_neg (by rw [hf]; decide)]
  · split <;> rfl

/-- No table state and no message make `DecodeMessage` panic (C07 reuses this): every slice
`p[v.Size():]`, `p[1:]`, `data[2:]`, `data[6:]` is in range. True since the repair of F20. -/
theorem decode_never_panics (tbl : TxnTable) (m : Msg) : dispatch tbl m ≠ .panic := dispatch_ne_panic tbl m

/-- Nor does any packet's `UnmarshalBinary` on any byte string. -/
theorem unmarshal_never_panics (k : Kind) (data : Bytes) : unmarshal k data ≠ .panic := unmarshal_ne_panic k data

/-- The chunk reader's own decoding of control messages inside `ReadMessage` (C01's model of
`onMessageArrivated`) is this model's `DecodeMessage`: the two models agree where they overlap. -/
theorem reader_uses_same_decoder (c : Nat) (m : Msg) (tbl : TxnTable) :
    onMessageArrived c m =
      (if m.hdr.ty = 1 ∨ m.hdr.ty = 4 ∨ m.hdr.ty = 5 then
         match (dispatchSt tbl m).1 with
         | .ok (.setChunkSize v) => ok v
         | .ok _ => ok c
         | .err _ => err .generic
         | .panic => .panic
       else ok c) := onMessageArrived_eq_decode c m tbl

/-- F20 (repaired): `publish`, transaction id 0, nothing else — `02 0007 "publish" 00 00…00`. The decoder
now reports an error; before the repair the command object preset by `NewPublishPacket` made `Size()`
one more than the payload and `p[v.variantCallPacket.Size():]` panicked. Same for a createStream
response that ends after the id. -/
theorem F20_regression :
    unmarshal .publish [2, 0, 7, 112, 117, 98, 108, 105, 115, 104, 0, 0, 0, 0, 0, 0, 0, 0, 0] = err .generic ∧
    unmarshal .createStreamRes [2, 0, 7, 95, 114, 101, 115, 117, 108, 116, 0, 0x40, 0, 0, 0, 0, 0, 0, 0] = err .generic := by
  decide +kernel

/-- **Encode, wire, decode.** `WritePacket(p, streamID)` on one endpoint with any output chunk size ≥ 1;
`ReadMessage` + `DecodeMessage` on the peer whose reader follows that chunk size and holds no partial
message: exactly the written bytes are consumed (C01's `write_read_one`), the message has `p`'s `Type()`,
stream id and marshalled payload, and it is decoded as the library's dispatch table says
(`Arrives`: control packets, connect, publish as themselves with equal fields; a `_result` as the
response type of the outstanding request with its id, which is consumed; createStream, play and every
other command as a generic call) to a packet that re-marshals to the same payload. The writer's own
table has the request registered. -/
theorem wire_dispatch (p q : Packet) (tbl tbl' : TxnTable) (hp : p.WF) (harr : Arrives tbl p q tbl')
    (streamID : Nat) (hlen : p.marshal.length < 16777216)
    (c : Nat) (hc : 1 ≤ c) (st : Reader) (hic : st.inChunk = c) (hclean : Clean st) (rest : Bytes) (wtbl : TxnTable) :
    ∃ W m st', writePacket c wtbl p streamID = (ok W, onPacketWritten wtbl p) ∧
      readMessage st (W ++ rest) = ok ((m, st'), rest) ∧ Clean st' ∧
      m.hdr.ty = p.msgType ∧ m.hdr.sid = streamID % 4294967296 ∧ m.hdr.ts = 0 ∧ m.payload = p.marshal ∧
      dispatch tbl m = ok (q, tbl') ∧ q.marshal = p.marshal :=
  RtmpPkt.wire_dispatch p q tbl tbl' hp harr streamID hlen c hc st hic hclean rest wtbl

/-- The same without the transport: any message of `p`'s type carrying `p`'s bytes. -/
theorem dispatch_marshalled (p q : Packet) (tbl tbl' : TxnTable) (hp : p.WF) (harr : Arrives tbl p q tbl')
    (m : Msg) (hty : m.hdr.ty = p.msgType) (hpl : m.payload = p.marshal) :
    dispatch tbl m = ok (q, tbl') ∧ q.marshal = p.marshal := by
  obtain ⟨hd, hm⟩ := dispatchSt_arrives tbl tbl' p q hp harr m hty hpl
  exact ⟨dispatch_eq_ok.mpr hd, hm⟩

/-- The rows of the table for the library's own request names: `play`, `createStream` and `closeStream`
REQUESTS are generic calls on the peer (identical bytes); only connect and publish have a typed arm. -/
theorem requests_arrive_as_calls (tbl : TxnTable) (tid : UInt64) (obj : Option Val) (sn : Bytes) :
    Arrives tbl (.createStream ⟨Gen.Rtmp.commandCreateStreamBytes, tid, obj⟩) (.call ⟨Gen.Rtmp.commandCreateStreamBytes, tid, obj⟩ none) tbl ∧
    Arrives tbl (.play ⟨Gen.Rtmp.commandPlayBytes, tid, obj⟩ sn) (.call ⟨Gen.Rtmp.commandPlayBytes, tid, obj⟩ (some (.str sn))) tbl ∧
    Arrives tbl (.call ⟨Gen.Rtmp.commandCloseStreamBytes, tid, obj⟩ none) (.call ⟨Gen.Rtmp.commandCloseStreamBytes, tid, obj⟩ none) tbl :=
  ⟨.createStream _ (show ctorKind (Gen.Rtmp.parseCommandArm Gen.Rtmp.commandCreateStreamBytes) = _ by decide),
   .play _ _ (show ctorKind (Gen.Rtmp.parseCommandArm Gen.Rtmp.commandPlayBytes) = _ by decide),
   .call _ _ (show ctorKind (Gen.Rtmp.parseCommandArm Gen.Rtmp.commandCloseStreamBytes) = _ by decide)⟩

/-- **A `_result` is matched exactly once.** For EVERY history `ops` of packets written and messages
decoded by an endpoint (arbitrary packets, arbitrary transaction ids, arbitrary — also malformed —
messages), and every message `m` that answers id `tid` (an AMF command/data message starting with
`_result`/`_error` and a number):
* the table is a function of the history: looking `tid` up finds exactly the request still awaiting its
  response (`awaiting`: the latest connect/createStream written with that id, a positive id and a
  non-empty name, unless a response with that id was decoded since);
* without such a request decoding `m` is an error — never a guess;
* with one, `m` is decoded — if its body decodes at all — as the response type of THAT request, the
  request is consumed, and any further response with that id is refused. -/
theorem result_once (ops : List Op) (m : Msg) (tid : UInt64) (hm : responseTid m = some tid) :
    (run ops).find tid = awaiting tid ops ∧
    (awaiting tid ops = none → dispatch (run ops) m = err .generic) ∧
    (∀ req, awaiting tid ops = some req →
      (∀ p tbl', dispatch (run ops) m = ok (p, tbl') → respKind req = some p.kind) ∧
      awaiting tid (ops ++ [.recv m]) = none ∧
      (∀ m', responseTid m' = some tid → dispatch (run (ops ++ [.recv m])) m' = err .generic)) := by
  have hnone : ∀ (ops : List Op) (m : Msg), responseTid m = some tid → awaiting tid ops = none →
      dispatch (run ops) m = err .generic := fun ops m hm h =>
    dispatch_eq_err.mpr (dispatchSt_response_none hm (by rw [run_find]; exact h))
  refine ⟨run_find ops tid, hnone ops m hm, fun req hreq => ?_⟩
  have hcons : awaiting tid (ops ++ [.recv m]) = none := by
    simp [awaiting, List.foldl_append, awaitStep, hm, numEq_self_of_pos (awaiting_pos hreq)]
  refine ⟨fun p tbl' hd => ?_, hcons, fun m' hm' => hnone _ m' hm' hcons⟩
  exact dispatchSt_response_kind hm (by rw [run_find]; exact hreq) (by rw [dispatch_eq_ok.mp hd])

/-- The domain made explicit: a request is registered only with a transaction id `> 0` (id 0 is RTMP's
"no reply expected"; a NaN is never equal to itself). With `tid ≤ 0` or NaN nothing is registered, no
history makes such an id outstanding, and a response carrying it is always an error. -/
theorem tid_nonpositive_unregistered (tid : UInt64) (h : isPositive tid = false) :
    (∀ tbl p n, registers p = some (tid, n) → onPacketWritten tbl p = tbl) ∧
    (∀ ops, awaiting tid ops = none) ∧
    (∀ ops m, responseTid m = some tid → dispatch (run ops) m = err .generic) := by
  have haw : ∀ ops, awaiting tid ops = none := fun ops =>
    Option.eq_none_iff_forall_ne_some.mpr fun r hr => by rw [awaiting_pos hr] at h; cases h
  refine ⟨?_, haw, fun ops m hm => (result_once ops m tid hm).2.1 (haw ops)⟩
  intro tbl p n hr
  simp [onPacketWritten, hr, h]

/-- `ExpectPacket` returns the FIRST message whose decoded kind is the requested one, with its packet,
provided the messages before it decode (control and command traffic of other kinds is skipped, the
transaction table threaded through); a message before it that does not decode ends the wait with that
error; if nothing matches the wait ends with the transport's end-of-stream error.
`ExpectMessage` returns the first message of one of the requested types (any message when none is
requested) without decoding anything. -/
theorem expect_first (k : Kind) (pre : List Msg) (tbl tbl1 tbl2 : TxnTable) (hs : Skips k tbl pre tbl1)
    (m : Msg) (post : List Msg) :
    (∀ p, dispatchSt tbl1 m = (ok p, tbl2) → p.kind = k →
      expectPacket k tbl (pre ++ m :: post) = (ok (m, p, post), tbl2)) ∧
    (∀ e, dispatchSt tbl1 m = (err e, tbl2) → expectPacket k tbl (pre ++ m :: post) = (err e, tbl2)) ∧
    expectPacket k tbl pre = (err .eof, tbl1) ∧
    (∀ types : List Nat, types ≠ [] → (∀ x ∈ pre, x.hdr.ty ∉ types) →
      (m.hdr.ty ∈ types → expectMessage types (pre ++ m :: post) = ok (m, post)) ∧
      expectMessage types pre = err .eof) ∧
    expectMessage [] (m :: post) = ok (m, post) :=
  ⟨fun p hd hk => by rw [expectPacket_skip hs, expectPacket, hd]; exact if_pos hk,
   fun e hd => by rw [expectPacket_skip hs, expectPacket, hd],
   by rw [← List.append_nil pre, expectPacket_skip hs]; rfl,
   fun types hne hpre => ⟨fun hm => by rw [expectMessage_skip hne hpre, expectMessage]; exact if_pos (.inr hm),
     by rw [← List.append_nil pre, expectMessage_skip hne hpre]; rfl⟩,
   by simp [expectMessage]⟩

/-- Neither wait can panic. -/
theorem expect_never_panics (k : Kind) (types : List Nat) (tbl : TxnTable) (msgs : List Msg) :
    (expectPacket k tbl msgs).1 ≠ .panic ∧ expectMessage types msgs ≠ .panic :=
  ⟨expectPacket_ne_panic k msgs tbl, expectMessage_ne_panic types msgs⟩

/-- The whole property, as one proposition. -/
def C03_statement : Prop :=
  (∀ p : Packet, p.marshal.length = p.size) ∧
  (∀ p : Packet, p.WF → unmarshal p.kind p.marshal = ok p) ∧
  (∀ (p q : Packet) (tbl tbl' : TxnTable), p.WF → Arrives tbl p q tbl' → ∀ m : Msg, m.hdr.ty = p.msgType →
      m.payload = p.marshal → dispatch tbl m = ok (q, tbl') ∧ q.marshal = p.marshal) ∧
  (∀ (ops : List Op) (m : Msg) (tid : UInt64), responseTid m = some tid →
      (awaiting tid ops = none → dispatch (run ops) m = err .generic) ∧
      (∀ req, awaiting tid ops = some req → ∀ m', responseTid m' = some tid →
        dispatch (run (ops ++ [.recv m])) m' = err .generic)) ∧
  (∀ (k : Kind) (pre : List Msg) (tbl tbl1 tbl2 : TxnTable), Skips k tbl pre tbl1 → ∀ (m : Msg) (p : Packet) (post : List Msg),
      dispatchSt tbl1 m = (ok p, tbl2) → p.kind = k → expectPacket k tbl (pre ++ m :: post) = (ok (m, p, post), tbl2))

/-- C03 holds in full for the repaired code (over the wire: `wire_dispatch`). -/
theorem C03_holds : C03_statement :=
  ⟨marshal_len, unmarshal_marshal, fun p q tbl tbl' hp ha m ht hpl => dispatch_marshalled p q tbl tbl' hp ha m ht hpl,
   fun ops m tid hm => ⟨(result_once ops m tid hm).2.1, fun req hr m' hm' => ((result_once ops m tid hm).2.2 req hr).2.2 m' hm'⟩,
   fun k pre tbl tbl1 tbl2 hs m p post hd hk => (expect_first k pre tbl tbl1 tbl2 hs m post).1 p hd hk⟩

/-! ### non-vacuity -/

/-- A connect request with a nested command object and optional arguments. -/
def exConnect : Packet :=
  .connect { name := Gen.Rtmp.commandConnectBytes, tid := one,
             obj := .cons [97, 112, 112] (.str [108, 105, 118, 101]) (.cons [111] (.obj (.cons [] (.num 0x7FF8000000000001) .nil)) .nil),
             args := some (.cons [120] .null .nil) }
/-- A createStream response with a NaN transaction id. -/
def exCsRes : Packet := .createStreamRes { name := Gen.Rtmp.commandResultBytes, tid := 0x7FF8000000000000, obj := some .null } 0x3FF0000000000000
def exPublish : Packet := .publish { name := Gen.Rtmp.commandPublishBytes, tid := 0, obj := some .null } [108, 105, 118, 101] []
def exCall : Packet := .call { name := Gen.Rtmp.commandCloseStreamBytes, tid := 0, obj := none } none

example : exConnect.WF := by decide
example : exCsRes.WF := by decide
example : exPublish.WF := by decide
example : exCall.WF := by decide
example : (Packet.userControl 0x1a 255 0).WF ∧ (Packet.userControl 3 0xFFFFFFFF 0x80000000).WF ∧ (Packet.userControl 0xFFFF 7 0).WF := by decide
example : exConnect.marshal.length = 61 := by rw [marshal_len]; decide
example : unmarshal .connect exConnect.marshal = ok exConnect := unmarshal_marshal exConnect (by decide)

/-- A createStream request with id 2, its response, a publish. -/
def exCs : Packet := .createStream { name := Gen.Rtmp.commandCreateStreamBytes, tid := 0x4000000000000000, obj := some .null }
def exRes : Packet := .createStreamRes { name := Gen.Rtmp.commandResultBytes, tid := 0x4000000000000000, obj := some .null } 0x3FF0000000000000
def exResMsg : Msg := { hdr := { ty := 20 }, payload := exRes.marshal }
def exCtl : Msg := { hdr := { ty := 5 }, payload := [0, 0, 16, 0] }

example : exCs.WF ∧ exRes.WF := by decide
-- transport hypotheses of `wire_dispatch`: a fresh reader is clean; the default chunk size is ≥ 1
example : Clean {} := by intro k ch h; simp [Chunks.get] at h
example : exConnect.marshal.length < 16777216 := by rw [marshal_len]; decide
-- the positive / non-positive split of transaction ids
example : isPositive one = true ∧ isPositive 0x7FF0000000000000 = true ∧ isPositive 1 = true := by decide
example : isPositive 0 = false ∧ isPositive 0x8000000000000000 = false ∧ isPositive 0xBFF0000000000000 = false ∧
    isPositive 0x7FF8000000000000 = false ∧ isPositive 0xFFF8000000000001 = false := by decide
example : numEq 0x7FF8000000000000 0x7FF8000000000000 = false ∧ numEq 0 0x8000000000000000 = true := by decide
-- a history: createStream(2) written, its _result decoded once, then refused
example : registers exCs = some (0x4000000000000000, Gen.Rtmp.commandCreateStreamBytes) := by decide
example : responseTid exResMsg = some 0x4000000000000000 := by decide +kernel
example : awaiting 0x4000000000000000 [.send exCs] = some Gen.Rtmp.commandCreateStreamBytes := by decide
example : respKind Gen.Rtmp.commandCreateStreamBytes = some .createStreamRes := by decide
example : dispatch (run [.send exCs]) exResMsg = ok (exRes, []) := by decide +kernel
example : dispatch (run [.send exCs, .recv exResMsg]) exResMsg = err .generic := by decide +kernel
example : Arrives (run [.send exCs]) exRes exRes ((run [.send exCs]).erase 0x4000000000000000) :=
  .createStreamRes _ _ Gen.Rtmp.commandCreateStreamBytes (by decide) (by decide +kernel) (by decide)
-- a typed wait that skips a control message and a publish before the response
example : Skips .createStreamRes (run [.send exCs]) [exCtl, { hdr := { ty := 20 }, payload := exPublish.marshal }] (run [.send exCs]) :=
  .cons _ (run [.send exCs]) _ _ _ (.winAck 4096) (by decide +kernel) (by decide)
    (.cons _ (run [.send exCs]) _ _ _ exPublish (by decide +kernel) (by decide) (.nil _))
example : ∀ x ∈ [exCtl], x.hdr.ty ∉ [20, 18] := by decide

end Oryx.Props.C03
