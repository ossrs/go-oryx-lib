/-
  C06 — the AMF0 wire format is the one defined by the AMF0 specification.
  Only property statements, their proofs from the helper lemmas (Oryx/Proofs/Amf0*.lean), and
  non-vacuity examples. Library model: Oryx/Model/Amf0.lean; independent specification codec:
  Oryx/Spec/Amf0.lean (written from amf0_spec_121207 §2.2–2.12); value relation: Oryx/Spec/Amf0Rel.lean.

  Result: the property holds for every value whose strict arrays are empty (`C06_partial`) and for
  all 256 marker bytes (`markers_total`, `unsupported_never_skipped`); it is FALSE for strict arrays
  with elements (`strict_array_witness`, `C06_statement_false`): the library uses a keyed layout,
  pinned by the existing test TestAmf0StrictArray_UnmarshalBinary — open known finding K1.
-/
import Oryx.Proofs.Amf0Spec
namespace Oryx.Props.C06
open Oryx Oryx.Res Oryx.Amf0 Oryx.Spec.Amf0

/-- The whole property: library bytes of any supported value decode, under the independent
specification decoder, to the same value; and any specification-conformant encoding of a supported
value is decoded by the library to that value. -/
def C06_statement : Prop :=
  (∀ v : Val, v.WF → ∃ s, toSpec v = some s ∧ Spec.Amf0.decode (encode v) = some (s, [])) ∧
  (∀ s : SVal, swf s = true → ∃ v, Amf0.decode (enc s) = ok (v, []) ∧ toSpec v = some s)

/-- Library → specification, for every well-formed value without strict-array elements: the bytes the
library produces ARE the specification's bytes for that value, and the independent decoder reads the
same value back (leaving exactly the trailing bytes). -/
theorem lib_to_spec (v : Val) (h : v.WF) (hc : compat v = true) (rest : Bytes) :
    ∃ s, toSpec v = some s ∧ enc s = encode v ∧ Spec.Amf0.decode (encode v ++ rest) = some (s, rest) := by
  obtain ⟨s, h1, h2, _, h4⟩ := lib_is_spec v h hc
  exact ⟨s, h1, h4, by rw [← h4]; exact spec_roundtrip s h2 rest⟩

/-- Specification → library, for every specification value without strict-array elements (any
associative-count on ECMA arrays): the library decodes the specification's bytes to that value, consuming
exactly them, and re-marshals to the same bytes. -/
theorem spec_to_lib (s : SVal) (h : swf s = true) (hc : scompat s = true) (rest : Bytes) :
    Amf0.decode (enc s ++ rest) = ok (ofSpec s, rest) ∧ toSpec (ofSpec s) = some s ∧
    encode (ofSpec s) = enc s := by
  obtain ⟨h1, _, h3, h4⟩ := spec_is_lib s h hc
  exact ⟨by rw [← h4]; exact decode_encode h1 rest, h3, h4⟩

/-- C06 restricted to values without strict-array elements (`compat` / `scompat`; empty strict arrays
are included). Missing for the full statement: strict arrays with ≥ 1 element — see
`strict_array_witness` (finding K1). -/
theorem C06_partial :
    (∀ v : Val, v.WF → compat v = true →
      ∃ s, toSpec v = some s ∧ Spec.Amf0.decode (encode v) = some (s, [])) ∧
    (∀ s : SVal, swf s = true → scompat s = true →
      ∃ v, Amf0.decode (enc s) = ok (v, []) ∧ toSpec v = some s) := by
  constructor
  · intro v h hc
    obtain ⟨s, h1, _, h3⟩ := lib_to_spec v h hc []
    exact ⟨s, h1, by simpa using h3⟩
  · intro s h hc
    obtain ⟨h1, h2, _⟩ := spec_to_lib s h hc []
    exact ⟨ofSpec s, by simpa using h1, h2⟩

/-! ### K1: the strict array -/

/-- The specification value `[1.0]` (§2.12: count, then the values). -/
def specOne : SVal := .strictArray (.cons (.number 0x3FF0000000000000) .nil)

/-- The specification encoding of `[1.0]` is `0A 00000001 00 3FF0000000000000`; the library does not
decode it (it reads `00 3F` as a key length), and whatever key the library's one-element strict array
has, its bytes are not the specification's; nor does the specification decoder read the library's bytes
of a keyed one-element array back as `[1.0]`. -/
theorem strict_array_witness :
    enc specOne = [0x0A, 0, 0, 0, 1, 0x00, 0x3F, 0xF0, 0, 0, 0, 0, 0, 0] ∧
    Amf0.decode (enc specOne) = .err .generic ∧
    (∀ k : Bytes, encode (.strict (.cons k (.num 0x3FF0000000000000) .nil)) ≠ enc specOne) ∧
    Spec.Amf0.decode (encode (.strict (.cons [] (.num 0x3FF0000000000000) .nil))) ≠ some (specOne, []) := by
  refine ⟨by rfl, by rfl, ?_, ?_⟩
  · intro k hk
    have := congrArg List.length hk
    rw [encode_length] at this
    simp [size, sizeP, utf8Size, specOne, enc, encVals, SVals.length] at this
    omega
  · -- the specification decoder reads `00 00 00 3F F0 00 00 00 00` as a number and leaves `00 00`
    have : Spec.Amf0.decode (encode (.strict (.cons [] (.num 0x3FF0000000000000) .nil))) =
        some (.strictArray (.cons (.number 0x00003FF000000000) .nil), [0, 0]) := by rfl
    rw [this]
    intro h
    injection h with h
    injection h with _ h
    cases h

/-- The full property is false for the code as it is (and must stay, the layout being pinned by an
existing test): `[1.0]` is a supported, well-formed specification value that the library rejects. -/
theorem C06_statement_false : ¬ C06_statement := by
  intro ⟨_, h2⟩
  obtain ⟨v, hv, _⟩ := h2 specOne (by rfl)
  have : Amf0.decode (enc specOne) = .err .generic := strict_array_witness.2.1
  rw [this] at hv
  cases hv

/-! ### all 256 marker bytes -/

/-- §2.1: the markers of the supported types (number, boolean, string, object, null, undefined,
ECMA array, strict array). Everything else — movieclip 4, reference 7, object-end 9 on its own,
date 11, long string 12, unsupported 13, recordset 14, XML 15, typed object 16, AVM+ 17, 18…255 — is not. -/
def supported (m : UInt8) : Bool :=
  m = 0x00 || m = 0x01 || m = 0x02 || m = 0x03 || m = 0x05 || m = 0x06 || m = 0x08 || m = 0x0A

/-- §2.1: the marker of each type. -/
def specMarker : Val → UInt8
  | .num _ => 0x00
  | .bool _ => 0x01
  | .str _ => 0x02
  | .obj _ => 0x03
  | .null => 0x05
  | .undef => 0x06
  | .ecma _ _ => 0x08
  | .eof => 0x09
  | .strict _ => 0x0A

def armMarker : Gen.Amf0.DiscoveryResult → Option UInt8
  | .NewNumber => some 0x00
  | .NewBoolean => some 0x01
  | .NewString => some 0x02
  | .NewObject => some 0x03
  | .NewNull => some 0x05
  | .NewUndefined => some 0x06
  | .NewEcmaArray => some 0x08
  | .objectEOF => some 0x09
  | .NewStrictArray => some 0x0A
  | .rejected => none

/-- The extracted `Discovery` table against the specification's marker table, all 256 bytes: a marker
is dispatched to the type the specification assigns to it, or rejected; the unsupported ones are
exactly the rejected ones plus object-end. -/
theorem discovery_table_all256 : ∀ m : UInt8,
    (armMarker (Gen.Amf0.discovery m.toNat) = some m ∨ Gen.Amf0.discovery m.toNat = .rejected) ∧
    (supported m = false → m = 9 ∨ Gen.Amf0.discovery m.toNat = .rejected) := by
  apply forall_u8; decide +kernel

/-- A byte that is none of the supported markers is an error as a value, at any fuel: whatever
`Discovery` makes of it, every `UnmarshalBinary` checks its own marker. -/
theorem unsupported_is_err {m : UInt8} (hs : supported m = false) (fuel : Nat) (q : Bytes) :
    decodeVal (fuel+1) (m :: q) = .err .generic := by
  have hne : ∀ c, supported c = true → m ≠ c := fun c hc e => by rw [e, hc] at hs; cases hs
  exact decodeVal_unsupported (hne 0 rfl) (hne 1 rfl) (hne 2 rfl) (hne 3 rfl) (hne 5 rfl) (hne 6 rfl)
    (hne 8 rfl) (hne 10 rfl) fuel q

/-- All 256 marker bytes, any continuation: an unsupported marker is an error; and whenever a value
is decoded, its marker is supported and the value is of the type the specification assigns to it. -/
theorem markers_total (m : UInt8) (tl : Bytes) :
    (supported m = false → Amf0.decode (m :: tl) = .err .generic) ∧
    (∀ v r, Amf0.decode (m :: tl) = ok (v, r) → supported m = true ∧ specMarker v = m) := by
  refine ⟨fun hs => unsupported_is_err hs _ tl, fun v r h => ?_⟩
  obtain ⟨_, hw, hh⟩ := (decode_sat _).of_ok h
  cases v with
  | eof => cases hw
  | _ => cases hh; exact ⟨rfl, rfl⟩

/-- Never silently skipped: an unsupported marker (or an object-end marker after a non-empty key) in
the value position of a property fails the whole object, ECMA array or strict array. -/
theorem unsupported_never_skipped (m : UInt8) (hm : supported m = false) (k : Bytes)
    (hk : k.length ≤ 65535) (hk9 : m = 9 → k ≠ []) (c : Nat) (tl : Bytes) :
    Amf0.decode (0x03 :: (utf8Enc k ++ m :: tl)) = .err .generic ∧
    Amf0.decode (0x08 :: (be 4 c ++ (utf8Enc k ++ m :: tl))) = .err .generic ∧
    (0 < c → c < 4294967296 → Amf0.decode (0x0A :: (be 4 c ++ (utf8Enc k ++ m :: tl))) = .err .generic) := by
  have hne : ¬ (k.length = 0 ∧ Gen.Amf0.discovery m.toNat = .objectEOF) := by
    intro ⟨h0, he⟩
    rcases (discovery_table_all256 m).2 hm with h9 | hr
    · exact hk9 h9 (List.eq_nil_of_length_eq_zero h0)
    · rw [hr] at he; cases he
  have hl : 2 ≤ (utf8Enc k ++ m :: tl).length := by
    simp only [List.length_append, utf8Enc_length, utf8Size]; omega
  have hP : ∀ fuel, 2 ≤ fuel → decodeProps fuel (utf8Enc k ++ m :: tl) = .err .generic := fun _ =>
    decodeProps_child_err hk hne (fun f => unsupported_is_err hm f tl)
  refine ⟨?_, ?_, fun hc0 hc => ?_⟩
  · rw [decode_cons, decodeVal_obj, hP]
    · rfl
    · omega
  · rw [decode_cons, decodeVal_ecma_append _ (be_length 4 c), hP]
    · rfl
    · simp only [List.length_cons, List.length_append]; omega
  · obtain ⟨n, rfl⟩ : ∃ n, c = n + 1 := ⟨c - 1, by omega⟩
    rw [decode_cons, decodeVal_strict_append _ (be_length 4 _), ofBE_be_of_lt hc,
      decodeElems_child_err hk (fun f => unsupported_is_err hm f tl)]
    · rfl
    · simp only [List.length_cons, List.length_append]; omega

/-! ### non-vacuity: concrete inhabitants of the hypotheses -/

/-- FFmpeg-style metadata: an ECMA array with an approximate count holding numbers, a boolean, a
string, a nested object and an EMPTY strict array. -/
def exMeta : SVal :=
  .ecmaArray 13 (.cons [100, 117, 114] (.number 0x4024000000000000)
    (.cons [115, 116, 101, 114, 101, 111] (.boolean true)
    (.cons [101, 110, 99] (.string [76, 97, 118, 102])
    (.cons [] (.object (.cons [107] .null .nil))
    (.cons [99, 117, 101] (.strictArray .nil) .nil)))))

example : swf exMeta = true ∧ scompat exMeta = true := by decide
example : (ofSpec exMeta).WF ∧ compat (ofSpec exMeta) = true := by decide
example : Amf0.decode (enc exMeta ++ [7]) = ok (ofSpec exMeta, [7]) := (spec_to_lib exMeta (by decide) (by decide) [7]).1
example : swf specOne = true ∧ scompat specOne = false := by decide
example : supported 4 = false ∧ ([97] : Bytes).length ≤ 65535 ∧ ((4 : UInt8) = 9 → ([97] : Bytes) ≠ []) := by decide
example : supported 9 = false ∧ ((9 : UInt8) = 9 → ([97] : Bytes) ≠ []) := by decide
example : ∃ v r, Amf0.decode (0x0A :: [0, 0, 0, 0, 5]) = ok (v, r) ∧ specMarker v = 0x0A := ⟨_, _, rfl, rfl⟩
example : (0 : Nat) < 1 ∧ (1 : Nat) < 4294967296 := by decide

end Oryx.Props.C06
