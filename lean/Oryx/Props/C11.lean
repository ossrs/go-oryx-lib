/-
  C11 — ADTS framing and AudioSpecificConfig round-trip and match the ISO layout.
  Only property statements, their proofs from the helper lemmas (Oryx/Proofs/Aac.lean), and
  non-vacuity examples.

  Vocabulary (defined in Proofs/Aac.lean, Model/Aac.lean, Spec/Adts.lean):
  * `Accepted a`    — the configurations the library accepts: object type ∈ {1 Main, 2 LC, 3 SSR, 5 HE,
                      29 HEv2}, sampling-frequency index 1..12, channel configuration 1..7 (literals).
  * `reported a`    — what a decoder reports for `a`: object type of `a`'s ADTS profile (HE/HEv2 → LC),
                      `a`'s sampling index and channels.
  * `Spec.Adts.Frame`, `Frame.write`, `writeAll` — the independent ISO/IEC 13818-7 §6.2 writer.
  * `Acceptable f`  — a writer frame in the domain: field widths, profile ≤ 2, index 1..12, channels 1..7,
                      ≥ 1 raw byte, aac_frame_length ≤ 8191 (13 bits). Either ID, either protection bit,
                      every value of the private/original/home/copyright bits, buffer fullness and CRC.
  * `adtsDecode st data = (st', r)` — `Decode` on a receiver whose config was `st`: the receiver's config
                      afterwards and `(raw, left)` / the error.
-/
import Oryx.Proofs.Aac
namespace Oryx.Props.C11
open Oryx Oryx.Res Oryx.Aac Oryx.Spec.Adts

/-- For every accepted configuration and every raw frame of 1..8184 bytes, `Encode` succeeds with a frame
of `len + 7` bytes, and `Decode` of that frame (on a receiver in any prior state) returns exactly the raw
bytes, nothing left over, and reports the configuration's ADTS profile, sampling index and channels. -/
theorem adts_roundtrip (a : Asc) (h : Accepted a) (raw : Bytes) (h1 : 1 ≤ raw.length) (h2 : raw.length ≤ 8184)
    (st : Asc) :
    ∃ frame, adtsEncode a raw = ok frame ∧ frame.length = raw.length + 7 ∧
      adtsDecode st frame = (reported a, ok (raw, [])) ∧
      toProfile (reported a).object = toProfile a.object ∧
      (reported a).sampleRate = a.sampleRate ∧ (reported a).channels = a.channels := by
  refine ⟨_, adtsEncode_is_spec a h raw h2, (Frame.write_length _).trans (Nat.add_comm 7 _), ?_, reported_profile a h, rfl, rfl⟩
  have := adtsDecode_write _ (encFrame_acceptable a h raw h1 h2) st []
  rwa [List.append_nil, frameAsc_encFrame] at this

/-- Byte for byte, the encoder's output is the ISO writer's frame (MPEG-4 id, no CRC, buffer fullness
0x03f, all other free bits 0) — "match the ISO layout". -/
theorem adts_encode_is_spec (a : Asc) (h : Accepted a) (raw : Bytes) (hl : raw.length ≤ 8184) :
    adtsEncode a raw = ok (encFrame a raw).write :=
  adtsEncode_is_spec a h raw hl

/-- Every acceptable frame of the independent writer — MPEG-2 or MPEG-4 id, with or without the 16-bit
CRC — followed by any bytes, decodes to exactly its raw data block; the remainder is exactly what
followed; the receiver reports object type = profile + 1 (the ISO mapping), the frame's index and
channels. -/
theorem adts_spec (f : Frame) (h : Acceptable f) (st : Asc) (rest : Bytes) :
    adtsDecode st (f.write ++ rest) = (frameAsc f, ok (f.raw, rest)) ∧
    objectTypeOfProfile f.profile = some (frameAsc f).object.toNat ∧
    (frameAsc f).sampleRate.toNat = f.sfi ∧ (frameAsc f).channels.toNat = f.channels := by
  have hd := adtsDecode_write f h st rest
  obtain ⟨-, hp, ⟨-, hs⟩, ⟨-, hc⟩, -, -⟩ := h
  refine ⟨hd, ?_, UInt8.toNat_ofNat_of_lt' (show _ < 256 by omega), UInt8.toNat_ofNat_of_lt' (show _ < 256 by omega)⟩
  have : f.profile = 0 ∨ f.profile = 1 ∨ f.profile = 2 := by omega
  rcases this with e | e | e <;> (simp only [frameAsc, e]; rfl)

/-- The frame on the wire is header (7 or 9 bytes) + raw, and its 13-bit length field is that size. -/
theorem adts_spec_size (f : Frame) : f.write.length = f.frameLength ∧
    f.frameLength = (if f.protectionAbsent = 0 then 9 else 7) + f.raw.length :=
  ⟨f.write_length, rfl⟩

/-- A concatenation of frames decodes one frame at a time: decoding at the start of any frame returns that
frame's raw block, the remainder is exactly the concatenation of the following frames, and that remainder
starts at the next sync word (or is empty). Induction on the frame list. -/
theorem adts_concat_step (f : Frame) (fs : List Frame) (h : ∀ g ∈ f :: fs, Acceptable g) (st : Asc) :
    adtsDecode st (writeAll (f :: fs)) = (frameAsc f, ok (f.raw, writeAll fs)) ∧ AtSync (writeAll fs) :=
  ⟨adtsDecode_write f (h f (by simp)) st (writeAll fs), writeAll_atSync fs (fun g hg => h g (by simp [hg]))⟩

/-- Hence the documented caller loop ("when left is not nil, decode it again") over a concatenation of
any number of frames returns exactly the raw blocks, in order; it needs no more iterations than bytes. -/
theorem adts_concat (fs : List Frame) (h : ∀ f ∈ fs, Acceptable f) (st : Asc) (fuel : Nat)
    (hfuel : (writeAll fs).length ≤ fuel) :
    decodeStream fuel st (writeAll fs) = ok (fs.map (·.raw)) :=
  decodeStream_writeAll fs h st fuel hfuel

/-- The same for streams produced by the library's own encoder (configurations may change per frame). -/
theorem adts_concat_encoded (items : List (Asc × Bytes)) (h : ∀ i ∈ items, ItemOk i) (st : Asc) :
    ∃ stream, encodeAll items = ok stream ∧
      decodeStream (stream.length + 1) st stream = ok (items.map (·.2)) := by
  refine ⟨_, encodeAll_eq_writeAll items h, ?_⟩
  have hacc : ∀ f ∈ items.map (fun i => encFrame i.1 i.2), Acceptable f := by
    intro f hf
    obtain ⟨i, hi, rfl⟩ := List.mem_map.mp hf
    obtain ⟨ha, h1, h2⟩ := h i hi
    exact encFrame_acceptable i.1 ha i.2 h1 h2
  rw [decodeStream_writeAll _ hacc st _ (Nat.le_succ _)]
  simp [List.map_map, Function.comp_def, encFrame]

/-- All 65 536 two-byte values (any trailing bytes, any prior receiver state): `UnmarshalBinary` extracts
the ISO bit fields; it accepts iff the predicate `AscOk` holds; if accepted, `MarshalBinary` of the result
gives the two bytes back bit-exactly on the 13 significant bits (3 padding bits cleared); if not, it is
rejected and so is marshalling the parsed fields. -/
theorem asc_exhaustive (t0 t1 : UInt8) (st : Asc) (rest : Bytes) :
    (ascUnmarshal st (t0 :: t1 :: rest)).1 = ascFields t0 t1 ∧
    ((ascFields t0 t1).object.toNat = t0.toNat / 8 ∧
     (ascFields t0 t1).sampleRate.toNat = (t0.toNat % 8) * 2 + t1.toNat / 128 ∧
     (ascFields t0 t1).channels.toNat = t1.toNat / 8 % 16) ∧
    ((ascUnmarshal st (t0 :: t1 :: rest)).2 = ok () ↔ AscOk t0 t1) ∧
    (AscOk t0 t1 → ascMarshal (ascFields t0 t1) = ok [t0, t1 &&& 0xf8]) ∧
    (¬ AscOk t0 t1 → (ascUnmarshal st (t0 :: t1 :: rest)).2 = err .generic ∧
                      ascMarshal (ascFields t0 t1) = err .generic) := by
  have hiff : validate (ascFields t0 t1) = ok () ↔ AscOk t0 t1 :=
    (validate_ok_iff _).trans (ascFields_accepted_iff t0 t1)
  refine ⟨rfl, ascFields_toNat t0 t1, hiff, ascMarshal_ascFields t0 t1, fun hn => ?_⟩
  have hn' := mt (ascFields_accepted_iff t0 t1).mp hn
  exact ⟨(validate_eq _).trans (if_neg hn'), ascMarshal_err _ hn'⟩

/-- Fewer than two bytes: rejected, receiver untouched. -/
theorem asc_short (st : Asc) (data : Bytes) (h : data.length < 2) :
    ascUnmarshal st data = (st, err .generic) := by
  match data, h with
  | [], _ => rfl
  | [_], _ => rfl

/-- Every accepted configuration marshals to two bytes that unmarshal (whatever follows them) to the
same configuration; every other configuration is rejected by `MarshalBinary`. -/
theorem asc_roundtrip (a : Asc) (st : Asc) (rest : Bytes) :
    (Accepted a → ∃ b0 b1, ascMarshal a = ok [b0, b1] ∧ ascUnmarshal st (b0 :: b1 :: rest) = (a, ok ())) ∧
    (¬ Accepted a → ascMarshal a = err .generic) :=
  ⟨fun h => ascUnmarshal_ascMarshal a h st rest, ascMarshal_err a⟩

/-- Each sampling-frequency index converts to the frequency of the ISO table (indices 0..12); the reserved
indices and every other `uint8` value give 0. -/
theorem sr_table (v : UInt8) : toHz v = ok ((samplingFrequency v.toNat).getD 0) := toHz_eq v

/-! ### no decoder panics; the enum helpers are total (reused by C07) -/

/-- `Decode`, the caller loop (which therefore also terminates: its fuel is never exhausted),
`UnmarshalBinary`, `MarshalBinary` and `Encode` never panic, on any input and receiver state. -/
theorem decoders_never_panic (st : Asc) (bs : Bytes) :
    (adtsDecode st bs).2 ≠ .panic ∧ decodeStream (bs.length + 1) st bs ≠ .panic ∧
    (ascUnmarshal st bs).2 ≠ .panic ∧ ascMarshal st ≠ .panic ∧ adtsEncode st bs ≠ .panic :=
  ⟨adtsDecode_ne_panic st bs, decodeStream_ne_panic _ st bs (Nat.le_succ _), ascUnmarshal_ne_panic st bs,
   ascMarshal_ne_panic st, adtsEncode_ne_panic st bs⟩

/-- Every enum helper returns for all 256 `uint8` values: `ToHz` (true only with the bounds guard),
`ToProfile`, `ToObjectType` and the four `String` methods. -/
theorem enum_helpers_total (v : UInt8) :
    toHz v ≠ .panic ∧ toProfile v ≠ .panic ∧ toObjectType v ≠ .panic ∧
    Gen.Aac.ObjectType_String v.toNat ≠ .panic ∧ Gen.Aac.Profile_String v.toNat ≠ .panic ∧
    Gen.Aac.SampleRateIndex_String v.toNat ≠ .panic ∧ Gen.Aac.Channels_String v.toNat ≠ .panic := by
  obtain ⟨-, -, -, hs⟩ := enum_total v.toNat
  exact ⟨toHz_ne_panic v, toProfile_ne_panic v, toObjectType_ne_panic v, hs⟩

/-! ### gating obligations on the generated tables -/

example : "SampleRateIndex_ToHz" ∈ Gen.Aac.translatedHelpers := by
  simp only [Gen.Aac.translatedHelpers, List.mem_cons, true_or, or_true]
example : Gen.Aac.ToHz 12 = .ok 7350 ∧ Gen.Aac.ToHz 13 = .ok 0 ∧ Gen.Aac.ToHz 255 = .ok 0 := by decide
example : Gen.Aac.SampleRateIndexForbidden = 17 := by decide

/-! ### non-vacuity: concrete inhabitants of the hypotheses, concrete instances of the conclusions -/

def exCfg : Asc := { object := 2, sampleRate := 4, channels := 2 }       -- LC 44.1 kHz stereo
def exCfgHE : Asc := { object := 29, sampleRate := 12, channels := 7 }
/-- MPEG-2 id, CRC present (protection_absent = 0), every free bit set. -/
def exFrame : Frame :=
  { id := 1, protectionAbsent := 0, profile := 1, sfi := 4, privateBit := 1, channels := 2, original := 1,
    home := 1, copyrightBit := 1, copyrightStart := 1, bufferFullness := 0x7ff, crc := 0xaabb, raw := [1, 2, 3] }
/-- MPEG-4 id, no CRC. -/
def exFrame2 : Frame :=
  { id := 0, protectionAbsent := 1, profile := 0, sfi := 12, privateBit := 0, channels := 7, original := 0,
    home := 0, copyrightBit := 0, copyrightStart := 0, bufferFullness := 0, crc := 0, raw := [9] }

example : Accepted exCfg := by decide
example : Accepted exCfgHE := by decide
example : ¬ Accepted { object := 2, sampleRate := 0, channels := 2 } := by decide   -- 96 kHz is refused
example : Acceptable exFrame := by decide
example : Acceptable exFrame2 := by decide
example : ItemOk (exCfg, [0x21, 0x00]) := by decide
example : ∀ g ∈ [exFrame, exFrame2], Acceptable g := by decide
example : AscOk 0x12 0x10 := by decide
example : ¬ AscOk 0x12 0x00 := by decide
-- the test vector of aac_test.go, and the formerly failing CRC frame (F10) followed by another frame
example : (adtsEncode exCfg [0]).isOk = true := by decide
example : exFrame.write = [0xff, 0xf8, 0x52, 0xbc, 0x01, 0x9f, 0xfc, 0xaa, 0xbb, 1, 2, 3] := by decide
example : (adtsDecode default (exFrame.write ++ exFrame2.write)).1 = { object := 2, sampleRate := 4, channels := 2 } :=
  by rw [(adts_spec exFrame (by decide) default _).1]; rfl
example : toHz 4 = ok 44100 := sr_table 4
example : toHz 17 = ok 0 := sr_table 17

end Oryx.Props.C11
