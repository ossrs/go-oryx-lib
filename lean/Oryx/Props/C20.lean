/-
  C20 — Rate meters report the counter's growth over the last full window.

  Reading of the property in the model's terms
  * history  = any list of operations `start | close | sample now count | avg now count`
               (`sample` = the sampling step `doSample(now)` while the source reads `count`);
  * a window "fires" when it is consulted and a full window length has elapsed since its own
    previous sample; rates are exact rationals `num/den` of the integers Go converts to float64
    (the float rounding is recomputed and compared bit-for-bit by the harness, not modelled);
  * the counter difference is Go's `int64(count - prev)` on `uint64` (`diff64`). Inside the domain
    `counts < 2^63` it is the integer difference; a true wrap past 2^64 still reads as the increase
    (`wrap_reads_increase`); a backward step of more than 2^63 is indistinguishable from a wrap
    (`backward_wrap_witness`) — that is the stated boundary of `stall_or_backward_zero`.
-/
import Oryx.Proofs.Kxps
namespace Oryx.Props.C20
open Oryx Oryx.Res Oryx.Kxps

open Oryx.Gen.Kxps renaming interval_r10s → I10, interval_r30s → I30, interval_r300s → I300

/-! ### gating obligations: the generated facts the model and the theorems rely on -/

example : Gen.Kxps.windows = [("r10s", 10000000000), ("r30s", 30000000000), ("r300s", 300000000000)] := rfl
example : Gen.Kxps.cascadeOrder = ["r10s", "r30s", "r300s"] := rfl
example : Gen.Kxps.cascadeGated = true := rfl
example : Gen.Kxps.initGuard = "v.r10s.count == 0" ∧ Gen.Kxps.initOrder = ["r10s", "r30s", "r300s"] := ⟨rfl, rfl⟩
example : Gen.Kxps.fireCond = "v.lastSample.Add(v.interval).After(now)" := rfl
example : Gen.Kxps.diffExpr = "int64(nbRequests - v.count)" := rfl
example : Gen.Kxps.zeroCond = "diff <= 0" := rfl
example : Gen.Kxps.msDivisor = 1000000 ∧ Gen.Kxps.rateScale = 1000 := ⟨rfl, rfl⟩
example : Gen.Kxps.kbpsMul = 8 ∧ Gen.Kxps.kbpsDiv = 1000 ∧ Gen.Kxps.kbpsUniform = true ∧ Gen.Kxps.krpsPlain = true := ⟨rfl, rfl, rfl, rfl⟩
example : Gen.Kxps.startedGuardAll = true := rfl

/-! ### window_rate -/

/-- After ANY scripted life of a fresh meter, the three windows are exactly what the property's
per-window formula (`Ref.step`: a window samples iff it is consulted and a full window length has
elapsed since its own previous sample; it then reports `max 0 diff · 1000 / windowMs` and remembers
`(count, now)`; otherwise it is unchanged) yields over the same history. -/
theorem window_rate (ops : List Op) :
    let m := Meter.new.exec ops
    let r := Ref.run {} ops
    m.r10s = r.w10 ∧ m.r30s = r.w30 ∧ m.r300s = r.w300 := by
  have h : (Meter.new.exec ops).ref = Ref.run {} ops := ref_exec Meter.new ops
  exact ⟨congrArg Ref.w10 h, congrArg Ref.w30 h, congrArg Ref.w300 h⟩

/-- One step, explicitly: on a non-zero observation after the first one, each window that fires
holds `firedRate` over its own previous count and remembers `(c, now)`; each window that does not
fire keeps rate, previous count and previous time. -/
theorem window_rate_step (m : Meter) (now : Int) (c : Nat) (hc : c ≠ 0) (hi : m.r10s.count ≠ 0) :
    let m' := m.doSample now c
    (m'.r10s = if fired10 m now then { m.r10s with count := c, last := now, rate := firedRate I10 c m.r10s.count } else m.r10s) ∧
    (m'.r30s = if fired30 m now then { m.r30s with count := c, last := now, rate := firedRate I30 c m.r30s.count } else m.r30s) ∧
    (m'.r300s = if fired300 m now then { m.r300s with count := c, last := now, rate := firedRate I300 c m.r300s.count } else m.r300s) := by
  rw [doSample_step m now c hc hi]
  exact ⟨rfl, rfl, rfl⟩

/-- The fired rate as a rational number, inside the domain `counts < 2^63`:
`num/den = max 0 (count − prevCount) · 1000 / windowMs` (cross-multiplied; both denominators are positive). -/
theorem fired_rate_value (iv : Nat) (c p : Nat) (hc : c < two63) (hp : p < two63) :
    (firedRate iv c p).num * windowMs iv = max 0 ((c : Int) - (p : Int)) * 1000 * (firedRate iv c p).den := by
  have hd := diff64_of_lt hc hp
  by_cases h : diff64 c p ≤ 0
  · rw [firedRate_of_nonpos h, Int.max_eq_left (hd ▸ h)]; simp
  · rw [firedRate_of_pos (by omega), hd, Int.max_eq_right (by omega)]

/-- The three window lengths in milliseconds (the denominators). -/
theorem window_ms : windowMs I10 = 10000 ∧ windowMs I30 = 30000 ∧ windowMs I300 = 300000 :=
  ⟨rfl, rfl, rfl⟩

/-- The first non-zero observation only plants `(count, now)` in all three windows; a zero reading changes nothing. -/
theorem first_observation (m : Meter) (now : Int) (c : Nat) :
    (c = 0 → m.doSample now c = m) ∧
    (c ≠ 0 → m.r10s.count = 0 →
      m.doSample now c = { m with r10s := m.r10s.initialize now c, r30s := m.r30s.initialize now c,
                                  r300s := m.r300s.initialize now c }) :=
  ⟨fun h => by subst h; exact doSample_zero m now, fun hc hi => doSample_init m now c hc hi⟩

/-! ### cascade -/

/-- The 30 s window is consulted only if the 10 s window fired, the 300 s window only if the 30 s
window fired: otherwise they are untouched — even if their own window length has long elapsed. -/
theorem cascade (m : Meter) (now : Int) (c : Nat) (hc : c ≠ 0) (hi : m.r10s.count ≠ 0) :
    (fired10 m now = false → (m.doSample now c).r30s = m.r30s ∧ (m.doSample now c).r300s = m.r300s) ∧
    (fired30 m now = false → (m.doSample now c).r300s = m.r300s) := by
  rw [doSample_step m now c hc hi]
  refine ⟨fun h => ?_, fun h => ?_⟩
  · have h30 : fired30 m now = false := by rw [fired30, h, Bool.false_and]
    rw [h, h30, winStep_false, winStep_false]
    exact ⟨rfl, rfl⟩
  · rw [h, winStep_false]

/-! ### average -/

/-- After any scripted life of a fresh meter, the average reported at `(now, c)` is 0 until the
average has seen a non-zero count, and afterwards `avgRate` against that first non-zero observation
`(t0, c0)`: `max 0 (c − c0) · 1000 / ⌊(now − t0)/1 ms⌋`. -/
theorem average (ops : List Op) (now : Int) (c : Nat) :
    ((Meter.new.exec ops).sampleAverage now c).2 =
      match avgBase ops with
      | none => Rate.zero
      | some (t0, c0) => avgRate t0 c0 now c := by
  rw [sampleAverage_eq, ← (base_exec Meter.new ops).trans Option.none_or, Meter.base]
  dsimp only
  split <;> rfl

/-- Inside the domain (non-decreasing counts below 2^63, less than 2^63 ns ≈ 292 years elapsed):
total increase · 1000 over whole elapsed milliseconds. -/
theorem average_value (t0 now : Int) (c0 c : Nat) (hc0 : c0 < two63) (hc : c < two63) (hle : c0 < c)
    (ht : t0 + 1000000 ≤ now) (ht' : now - t0 < (two63 : Int)) :
    avgRate t0 c0 now c = ⟨((c : Int) - (c0 : Int)) * 1000, (now - t0) / 1000000⟩ := by
  have hcl : clamp64 (now - t0) = now - t0 := clamp64_of_bounds (by omega) ht'
  have htd : (now - t0).tdiv 1000000 = (now - t0) / 1000000 := Int.tdiv_eq_ediv_of_nonneg (by omega)
  have hd := diff64_of_lt hc hc0
  rw [avgRate_of_pos (by omega) (by omega) (by rw [hcl, htd]; exact Int.le_ediv_of_mul_le (by decide) (by omega)),
    hd, hcl, htd]

/-! ### nonneg_finite -/

/-- Every value the meter can report — the three windows, the average, and their kbit/s scalings —
after any scripted life is a non-negative rational with a positive (non-zero) denominator. -/
theorem nonneg_finite (ops : List Op) (now : Int) (c : Nat) :
    let m := Meter.new.exec ops
    m.r10s.rate.Good ∧ m.r30s.rate.Good ∧ m.r300s.rate.Good ∧ (m.sampleAverage now c).2.Good ∧
    m.r10s.rate.kbps.Good ∧ m.r30s.rate.kbps.Good ∧ m.r300s.rate.kbps.Good ∧ (m.sampleAverage now c).2.kbps.Good := by
  intro m
  obtain ⟨h1, h2, h3⟩ := exec_good new_good ops
  have h4 := sampleAverage_good m now c
  exact ⟨h1, h2, h3, h4, Rate.kbps_good h1, Rate.kbps_good h2, Rate.kbps_good h3, Rate.kbps_good h4⟩

/-- kbit/s scaling: bytes/s · 8 / 1000. -/
theorem kbps_scaling (r : Rate) : r.kbps = ⟨r.num * 8, r.den * 1000⟩ :=
  rfl

/-! ### stall_or_backward_zero (domain: counts < 2^63) and the boundary -/

/-- A window that fires on a counter that stalled or went backwards reports exactly 0 —
under the explicit domain hypothesis that the previous count is below 2^63. -/
theorem stall_or_backward_zero (iv : Nat) (c p : Nat) (hp : p < two63) (hle : c ≤ p) :
    firedRate iv c p = ⟨0, 1⟩ :=
  firedRate_of_nonpos (by rw [diff64_of_lt (by omega) hp]; omega)

/-- The same for the average. -/
theorem stall_or_backward_zero_average (t0 now : Int) (c0 c : Nat) (hp : c0 < two63) (hle : c ≤ c0) :
    avgRate t0 c0 now c = Rate.zero :=
  avgRate_of_nonpos (by rw [diff64_of_lt (by omega) hp]; omega)

/-- Boundary witness: outside the domain a backward step of more than 2^63 reads as a wrap.
The counter falls from 2^63+5 to 1; the 10 s window reports (2^63−4)·1000/10000 ≈ 9.2·10^17 per second. -/
theorem backward_wrap_witness :
    (Meter.new.run [(0, two63 + 5), (10000000000, 1)]).r10s.rate = ⟨(9223372036854775804 : Int) * 1000, 10000⟩ := by
  decide +kernel

/-- …whereas a non-decreasing 64-bit counter that really wrapped past 2^64 reads as its true increase
(any increase below 2^63), so the subtraction cannot simply be made saturating. -/
theorem wrap_reads_increase (iv : Nat) (prev inc : Nat) (hp : prev < two64) (h0 : 0 < inc) (hi : inc < two63) :
    firedRate iv ((prev + inc) % two64) prev = ⟨(inc : Int) * 1000, windowMs iv⟩ := by
  rw [firedRate_of_pos (by rw [diff64_wrap hi]; omega), diff64_wrap hi]

/-! ### not_started_refused -/

/-- Reading any rate of a meter that is not started is refused (Go: panic) … -/
theorem not_started_refused (m : Meter) (h : m.started = false) (now : Int) (c : Nat) :
    m.rps10s = .panic ∧ m.rps30s = .panic ∧ m.rps300s = .panic ∧
    m.kbps10s = .panic ∧ m.kbps30s = .panic ∧ m.kbps300s = .panic ∧
    (m.rpsAverage now c).2 = .panic ∧ (m.kbpsAverage now c).2 = .panic := by
  simp [Meter.rps10s, Meter.rps30s, Meter.rps300s, Meter.kbps10s, Meter.kbps30s, Meter.kbps300s,
    Meter.guard, Meter.rpsAverage, Meter.kbpsAverage, h]

/-- … a meter is not started until `start`, and not any more after `close` … -/
theorem not_started_until_start (ops : List Op) (h : ∀ o ∈ ops, o ≠ Op.start) (m : Meter) (hm : m.started = false) :
    (m.exec ops).started = false := by
  induction ops generalizing m with
  | nil => exact hm
  | cons o os ih =>
    apply ih (fun x hx => h x (List.mem_cons_of_mem _ hx))
    cases o with
    | start => exact absurd rfl (h _ List.mem_cons_self)
    | close => rfl
    | sample now c => show (m.doSample now c).started = false; rw [doSample_frame]; exact hm
    | avg now c => show (m.sampleAverage now c).1.started = false; rw [sampleAverage_frame]; exact hm

theorem closed_is_refused (m : Meter) : m.close.started = false := rfl

/-- … and once started, every getter answers with the stored rate. -/
theorem started_answers (m : Meter) (h : m.started = true) :
    m.rps10s = .ok m.r10s.rate ∧ m.rps30s = .ok m.r30s.rate ∧ m.rps300s = .ok m.r300s.rate ∧
    m.kbps10s = .ok m.r10s.rate.kbps ∧ m.kbps30s = .ok m.r30s.rate.kbps ∧ m.kbps300s = .ok m.r300s.rate.kbps := by
  simp [Meter.rps10s, Meter.rps30s, Meter.rps300s, Meter.kbps10s, Meter.kbps30s, Meter.kbps300s, Meter.guard, h]

/-! ### non-vacuity: the hypotheses are inhabited and the formulas produce non-trivial values -/

/-- the repository's scripted walk: +10 every 10 s -/
def walk : List Obs := [(0, 0), (10000000000, 10), (20000000000, 20), (30000000000, 20), (40000000000, 30)]

example : (Meter.new.run walk).r10s.rate = ⟨10000, 10000⟩ ∧ (Meter.new.run walk).r30s.rate = ⟨20000, 30000⟩ ∧
    (Meter.new.run walk).r300s.rate = ⟨0, 1⟩ := by decide +kernel
-- a late sample (25 s gap) fires the 10 s window but not the 30 s one; cascade hypothesis inhabited
example : let m := Meter.new.run [(0, 5), (25000000000, 9)]
    fired10 m 26000000000 = false ∧ m.r10s.count ≠ 0 ∧ m.r10s.rate = ⟨4000, 10000⟩ := by decide +kernel
-- domain hypotheses of fired_rate_value / stall_or_backward_zero / average_value / wrap_reads_increase
example : (1000 : Nat) < two63 ∧ (7 : Nat) ≤ 1000 := by decide
example : firedRate I10 1000 7 = ⟨993000, 10000⟩ := by decide +kernel
example : firedRate I10 7 1000 = ⟨0, 1⟩ := by decide +kernel
example : avgRate 0 10 10000000000 20 = ⟨10000, 10000⟩ := by decide +kernel
example : (two64 - 10 : Nat) < two64 ∧ (0 : Nat) < 100 ∧ (100 : Nat) < two63 ∧ (two64 - 10 + 100) % two64 = 90 := by decide
example : avgBase [.start, .avg 5 0, .sample 6 3, .avg 7 3, .avg 9 4] = some (7, 3) := by decide
example : (Meter.new.exec [.sample 0 5, .close]).started = false ∧ Meter.new.start.started = true := by decide

end Oryx.Props.C20
