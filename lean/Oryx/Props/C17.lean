/-
  C17 — Comment stripping never changes what a JSON document means.

  Reading of the property in the model's terms (model = the REPAIRED json.go, see F13/K4 below)
  * `strip jsonPlus input`         = everything `ioutil.ReadAll(NewJsonPlusReader(r))` returns (bytes, final
                                     status) when `r` delivers `input` in one read followed by EOF;
    `stripChunks jsonPlus chunks`  = the same when `r` delivers the input as the reads `chunks`
                                     (bufio.Scanner: split on growing prefixes, `atEOF = false`, then EOF);
  * a decorated document is a list of `Piece`s — tokens (`plain`: bytes with none of `" ' /`; `str body`:
    `"` (escape pair | byte ∉ {`"`,`\`})* `"`) and comments (`line c` = `//c\n`, `block c` = `/*c*/`) in
    ANY order — optionally ended by a line comment that runs into EOF. Comment texts are arbitrary bytes
    (quotes, apostrophes, backslashes, comment openers) except `\n` resp. `*/`;
  * equal bytes ⇒ the standard decoder yields the same value, so `encoding/json` is outside the
    argument (the harness additionally compares decoded values on every generated document).

  Defects found by the proof obligations and repaired in the library (regression inputs in corr c17):
  * F13 `{"a":"x\""}` → "comment not match"; `{"a":"x\"//y","b":1}` → silently truncated: the end of a
    string was searched with `bytes.Index`, ignoring escapes (`old_search_witness` below). Fixed by
    `indexEnd` (model: `indexEsc`).
  * K4 any region of more than 64 KiB between markers → `bufio.Scanner: token too long`. Fixed by
    `Scanner.Buffer(nil, maxInt)`.

  PARTIAL (outside the model, exercised by the harness only): bufio.Scanner's buffer management — after
  the K4 fix the only size limit is max int / available memory; `ErrNoProgress` after 100 consecutive
  empty reads; underlying read errors other than EOF.
-/
import Oryx.Proofs.Json.Decorate
import Oryx.Proofs.Json.Read
namespace Oryx.Props.C17
open Oryx Oryx.Json

/-! ### gating obligations: generated tables and facts the model and the theorems rely on -/

example : Gen.Json.startMatches = [[39], [34], [47, 47], [47, 42]] := by decide      -- '  "  //  /*
example : Gen.Json.endMatches = [[39], [34], [10], [42, 47]] := by decide            -- '  "  \n  */
example : Gen.Json.isComments = [false, false, true, true] := by decide
example : Gen.Json.requiredMatches = [true, true, false, true] := by decide
example : Gen.Json.endSearch = "indexEnd(_:[]byte, _:[][]byte[_], !_:[]bool[_])" := rfl
example : Gen.Json.escapeByte = some 92 ∧ escByte = 92 := by decide
example : Gen.Json.scannerMax ≠ "default" := by decide

/-! ### segmentation_free -/

/-- For EVERY segmentation of the input into reads (any number of reads, of any sizes, empty reads
included) the comment reader emits the same bytes and ends in the same state as for one single read. -/
theorem segmentation_free (chunks : List Bytes) :
    stripChunks jsonPlus chunks = strip jsonPlus chunks.flatten :=
  scan_eq jsonPlus_stable _ [] chunks (by simp)

/-- Two segmentations of the same input are indistinguishable. -/
theorem segmentation_free_pair (c₁ c₂ : List Bytes) (h : c₁.flatten = c₂.flatten) :
    stripChunks jsonPlus c₁ = stripChunks jsonPlus c₂ := by
  rw [segmentation_free, segmentation_free, h]

/-- The engine: a token delivered before EOF is delivered unchanged whatever follows
(prefix stability of `firstMatch` and of the end search: a longer prefix never reveals an earlier match). -/
theorem split_prefix_stable (d x : Bytes) (adv : Nat) (tok : Bytes) (atEOF : Bool)
    (h : split jsonPlus d false = .token adv tok) : split jsonPlus (d ++ x) atEOF = .token adv tok :=
  (split_stable jsonPlus_stable h x atEOF).1

/-- The Scanner always makes progress: on no input is the model's fuel exhausted or a zero advance
returned (Go: no "too many empty tokens" panic, no endless loop), in one read or in any segmentation. -/
theorem never_stuck (chunks : List Bytes) :
    (strip jsonPlus chunks.flatten).2 ≠ .stuck ∧ (stripChunks jsonPlus chunks).2 ≠ .stuck := by
  have h := strip_not_stuck jsonPlus_stable chunks.flatten
  exact ⟨h, by rw [segmentation_free]; exact h⟩

/-! ### strip_decorated -/

/-- For every token list and every decoration of it — comments `//…\n` and `/*…*/` in any number
between any two tokens, before the first and after the last, optionally a final `//…` running into EOF
— the reader emits exactly the concatenation of the tokens and ends cleanly. String literals may
contain escaped quotes, backslashes, comment markers and apostrophes. -/
theorem strip_decorated (ps : List Piece) (tail : Option Bytes)
    (hps : ∀ p ∈ ps, p.WF) (htail : TailWF tail) :
    strip jsonPlus (renderDoc ps tail) = (keptDoc ps, .ok) :=
  strip_doc_aux tail htail ps [] plain_nil hps

/-- … and the same under every segmentation of the decorated text into reads. -/
theorem strip_decorated_chunked (ps : List Piece) (tail : Option Bytes) (chunks : List Bytes)
    (hps : ∀ p ∈ ps, p.WF) (htail : TailWF tail) (hc : chunks.flatten = renderDoc ps tail) :
    stripChunks jsonPlus chunks = (keptDoc ps, .ok) := by
  rw [segmentation_free, hc, strip_decorated ps tail hps htail]

/-- Only the tokens matter: decorations of the same token list all strip to the same bytes
("strip (decorate toks) = concat toks" with `toks = ps.filter (¬ isComment)`). -/
theorem kept_is_tokens (ps : List Piece) : keptDoc ps = keptDoc (ps.filter fun p => !p.isComment) := by
  induction ps with
  | nil => rfl
  | cons p ps ih =>
    rw [List.filter_cons, keptDoc_cons, ih]
    cases hc : p.isComment
    · rfl
    · rw [p.kept_eq, hc]; rfl

theorem strip_decorated_tokens (toks ps : List Piece) (tail : Option Bytes)
    (hdec : ps.filter (fun p => !p.isComment) = toks)
    (hps : ∀ p ∈ ps, p.WF) (htail : TailWF tail) :
    strip jsonPlus (renderDoc ps tail) = (keptDoc toks, .ok) := by
  rw [strip_decorated ps tail hps htail, kept_is_tokens, hdec]

/-- The token grammar covers every RFC 8259 string literal: any sequence of unescaped bytes (not `"`,
not `\`) and backslash escapes is a well-formed `str` piece — `"\""`, `"\\"`, `"a//b"`, `"/*"`, `"it's"`,
`"\u0022"` included. -/
theorem json_strings_are_tokens (items : List StrItem) : (Piece.str (strItems items)).WF :=
  strBody_items items

/-! ### no_comment_identity -/

/-- A document without comments passes through byte for byte. -/
theorem no_comment_identity (ps : List Piece) (hps : ∀ p ∈ ps, p.WF) (hnc : ∀ p ∈ ps, p.isComment = false) :
    strip jsonPlus (renderDoc ps none) = (renderDoc ps none, .ok) := by
  have e : keptDoc ps = renderDoc ps none := by
    rw [renderDoc_none, keptDoc]
    exact congrArg _ (List.map_congr_left fun p hp => by rw [p.kept_eq, hnc p hp]; rfl)
  rw [strip_decorated ps none hps trivial, e]

/-! ### F13: why the unrepaired end search was wrong (kept as the regression witness) -/

/-- In `"x\""` the plain `bytes.Index` search ends the string at the escaped quote (offset 2 of the body
`x\"`), the repaired escape-aware search at the real closing quote (offset 3 = length of the body). -/
theorem old_search_witness :
    index [34] ([120, 92, 34] ++ [34]) = some 2 ∧ indexEsc [34] ([120, 92, 34] ++ [34]) = some 3 := by decide

/-! ### consumer_free: the buffer between the Scanner and the consumer (`commentReader.Read`) -/

/-- For EVERY sequence of `Read` calls — slices of any lengths, zero included, in any order of sizes — on the comment
reader over ANY input: the bytes handed out so far followed by what the reader still owes are exactly what `strip`
emits (nothing lost, duplicated or reordered between two calls). -/
theorem consumer_free (input : Bytes) (sizes : List Nat) :
    outBytes ((Rd.ofInput jsonPlus input).reads sizes).2 ++ ((Rd.ofInput jsonPlus input).reads sizes).1.remaining =
      (strip jsonPlus input).1 := by
  rw [Rd.reads_remaining, Rd.ofInput_remaining]

/-- ... and a sequence that runs into `io.EOF` (or the scanner's error) has handed out all of it. -/
theorem consumer_complete (input : Bytes) (sizes : List Nat) (o : ROut) (ho : o = .eof ∨ o = .err)
    (h : ((Rd.ofInput jsonPlus input).reads sizes).2.getLast? = some o) :
    outBytes ((Rd.ofInput jsonPlus input).reads sizes).2 = (strip jsonPlus input).1 := by
  rw [← consumer_free input sizes, Rd.reads_end_nothing_left _ _ ho h, List.append_nil]

/-- EOF / the error are reported only when nothing is owed; a Read with a non-empty slice makes progress otherwise -/
theorem consumer_progress (r : Rd) (n : Nat) :
    ((r.read n).2 = .eof ∨ (r.read n).2 = .err → r.remaining = []) ∧
    (0 < n → r.remaining ≠ [] → ∃ b, (r.read n).2 = .data b ∧ b ≠ []) :=
  ⟨r.read_end_nothing_left n, r.read_progress n⟩

/-- the variant of a seeded change (a `WriteTo` that drains the Scanner and forgets the reader's buffer) loses the rest of
the token a short Read has cut: `[1]` read one byte at a time, then "the rest". -/
theorem consumer_forgetful_variant_breaks :
    let r := ((Rd.ofInput jsonPlus [91, 49, 93]).read 1).1
    r.remaining = [49, 93] ∧ r.writeToForgetful = [] := by decide +kernel

/-! ### non-vacuity: the hypotheses are inhabited by documents with every feature the property names -/

instance : DecidablePred Piece.WF := fun p => by
  cases p <;> simp only [Piece.WF, Plain] <;> exact inferInstance

instance : DecidablePred TailWF := fun t => by
  cases t <;> simp only [TailWF] <;> exact inferInstance

/-- `{"a\"":"x\\\"//y/*'"}` decorated: `/*"q'*/{"a\"": //c"\n "x\\\"//y/*'" /**/ }` + tail `// t'"` -/
def exDoc : List Piece :=
  [.block [34, 113, 39], .plain [123], .str [97, 92, 34], .plain [58, 32], .line [99, 34],
   .plain [32], .str [120, 92, 92, 92, 34, 47, 47, 121, 47, 42, 39], .plain [32], .block [], .plain [32, 125, 32]]
def exTail : Option Bytes := some [32, 116, 39, 34]

example : (∀ p ∈ exDoc, p.WF) ∧ TailWF exTail := by decide
example : strip jsonPlus (renderDoc exDoc exTail) = (keptDoc exDoc, .ok) := by decide +kernel
example : (renderDoc exDoc exTail).length = 48 ∧ (keptDoc exDoc).length = 26 := by decide
-- one-byte reads of the F13 input `{"a":"x\""}` give the document back
example : stripChunks jsonPlus ([123, 34, 97, 34, 58, 34, 120, 92, 34, 34, 125].map fun b => [b]) =
    ([123, 34, 97, 34, 58, 34, 120, 92, 34, 34, 125], .ok) := by decide +kernel
-- consumer side: `[1,/*c*/2]` read with slices of 1, 0, 2, 100 bytes and once more
example : ((Rd.ofInput jsonPlus [91, 49, 44, 47, 42, 99, 42, 47, 50, 93]).reads [1, 0, 2, 100, 5]).2 =
    [.data [91], .data [], .data [49, 44], .data [50, 93], .eof] := by decide +kernel
-- error branch (not part of the property's domain): an unterminated block comment is refused
example : strip jsonPlus [49, 47, 42, 50] = ([], .err) := by decide +kernel
-- no_comment_identity hypothesis
example : ∀ p ∈ [Piece.plain [91], .str [92, 34, 47, 47], .plain [93]], p.WF ∧ p.isComment = false := by decide

end Oryx.Props.C17
