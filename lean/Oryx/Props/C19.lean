/-
  C19 — HTTP API responses are a well-formed envelope the client half reads back.
  Statements over ALL codecs satisfying the stated `encoding/json` law, all value trees, all error
  kinds and codes, all callbacks. `encoding/json` / `net/http` are parameters (Codec); partial there.
  Proved over Oryx/Model/Http.lean directly: the seven branch facts below are all the lemmas it takes.
-/
import Oryx.Model.Http
namespace Oryx.Props.C19
open Oryx Oryx.Http

/-! ### gates: facts extracted from the Go source that the theorems rest on -/

example : Gen.Http.errorDispatch = ["SystemComplexError", "SystemError", "AppError"] := rfl
example : Gen.Http.plainDefaultStatus = 500 ∧ Gen.Http.plainStatusOverride = "HTTPStatus" := ⟨rfl, rfl⟩
example : Gen.Http.successKeys = ["code", "server", "data"] ∧ Gen.Http.successCode = some 0 := ⟨rfl, rfl⟩
example : Gen.Http.sysErrorKeys = ["code"] ∧ Gen.Http.appErrorKeys = ["code", "data"] ∧
    Gen.Http.cplxErrorKeys = ["code", "data"] := ⟨rfl, rfl, rfl⟩
example : Gen.Http.clientKeys = ["code", "data"] := rfl
example : Gen.Http.jsonContentType = "application/json" ∧
    Gen.Http.callbackContentType = "application/javascript" := ⟨rfl, rfl⟩
example : Gen.Http.callbackParam = "callback" ∧ (Gen.Http.jsonpFormat = some "%s(%s)" ∨ Gen.Http.jsonpFormat = none) := ⟨rfl, .inl rfl⟩
example : Gen.Http.marshalFailureGoesToError = true := rfl
/-- The repair of F18 is in place: the client rejects a status outside [200, 300) before parsing. -/
example : Gen.Http.clientChecksStatus = true ∧ Gen.Http.clientStatusLo = 200 ∧ Gen.Http.clientStatusHi = 300 :=
  ⟨rfl, rfl, rfl⟩

/-! ### domain -/

/-- The status a plain error is answered with. -/
def plainStatus (s? : Option Nat) : Nat := (s?.getD 500)

/-- Domain of the error clauses: coded errors carry a non-zero code (any sign); a plain error's own
HTTP status is an error status 300..999 (net/http panics outside 100..999, and turns 1xx into an
informational response followed by 200; an error that declares itself 2xx is not an error answer). -/
def ErrWF : Err → Prop
  | .cplx code _ => code ≠ 0
  | .sys code => code ≠ 0
  | .app code _ _ => code ≠ 0
  | .plain _ s? => 300 ≤ plainStatus s? ∧ plainStatus s? ≤ 999

/-- The code the client must report for an error. -/
def expectedCode : Err → Int
  | .cplx code _ => code
  | .sys code => code
  | .app code _ _ => code
  | .plain _ s? => plainStatus s?

theorem expected_ne_zero (e : Err) (h : ErrWF e) : expectedCode e ≠ 0 := by
  cases e with
  | plain _ s? => have := h.1; simp only [expectedCode]; omega
  | _ => exact h

/-! ### what each branch of the handlers answers and how the client reads it -/

theorem plainResp_status {T} (c : Codec T) (t : String) (s? : Option Nat) :
    (plainResp c t s?).status = plainStatus s? ∧ (plainResp c t s?).body = c.text t ∧
    (plainResp c t s?).ctype = textPlain := by
  cases s? <;> simp [plainResp, plainStatus, Gen.Http.plainStatusOverride, Gen.Http.plainDefaultStatus]

theorem read_of_error_status {T} (c : Codec T) (r : Resp T) (h : 300 ≤ r.status) :
    r.read c = .fail r.status := by
  have : ¬ r.status < 300 := by omega
  simp [Resp.read, apiRequest, Gen.Http.clientChecksStatus, Gen.Http.clientStatusLo, Gen.Http.clientStatusHi, this]

theorem read_200 {T} (c : Codec T) (r : Resp T) (h : r.status = 200) :
    r.read c = apiParse (c.parse r.body) := by
  simp [Resp.read, apiRequest, Gen.Http.clientChecksStatus, Gen.Http.clientStatusLo, Gen.Http.clientStatusHi, h]

theorem jsonHandler_ok {T} (c : Codec T) (rv : JVal) (t : T) (h : c.marshal rv = some t) :
    jsonHandler c rv "" = { status := 200, ctype := "application/json", server := true, body := t } := by
  simp [jsonHandler, h, Gen.Http.jsonContentType, Gen.Http.HttpJson]

theorem jsonHandler_fail {T} (c : Codec T) (rv : JVal) (cb : String) (h : c.marshal rv = none) :
    jsonHandler c rv cb = plainResp c (c.marshalErr rv) none := by
  simp [jsonHandler, h, Gen.Http.marshalFailureGoesToError]

/-- A plain response with an error status is read as that status. -/
theorem read_plain {T} (c : Codec T) (t : String) (s? : Option Nat) (h : 300 ≤ plainStatus s?) :
    (plainResp c t s?).read c = .fail (plainStatus s?) := by
  rw [read_of_error_status c _ (by rw [(plainResp_status c t s?).1]; exact h), (plainResp_status c t s?).1]

/-- A marshalled object is read back by its first member `code`. -/
theorem read_coded {T} (c : Codec T) (hc : c.Lawful) (code : Int) (rest : List (String × JVal)) (t : T)
    (hm : c.marshal (.obj (mkObj (("code", .num code) :: rest))) = some t) :
    (jsonHandler c (.obj (mkObj (("code", .num code) :: rest))) "").read c =
      if code ≠ 0 then .fail code else .ok code := by
  rw [jsonHandler_ok c _ t hm, read_200 c _ rfl, hc _ _ hm]
  simp [apiParse, mkObj, JMembers.get?, codeKey, Gen.Http.clientKeys]

/-! ### the property -/

/-- Success: 200, `application/json`, `Server` header, body = the marshalled envelope
`{code:0, server:pid, data:v}`, and the client reads it back as code 0 without error. -/
theorem success_reads_zero {T} (c : Codec T) (hc : c.Lawful) (pid : Nat) (v : JVal) (t : T)
    (hm : c.marshal (successEnvelope pid v) = some t) :
    let r := respondData c pid v ""
    r.status = 200 ∧ r.ctype = "application/json" ∧ r.server = true ∧ r.body = t ∧
    c.parse r.body = some (.obj (mkObj [("code", .num 0), ("data", v), ("server", .num pid)])) ∧
    r.read c = .ok 0 := by
  intro r
  have hr : r = { status := 200, ctype := "application/json", server := true, body := t } :=
    jsonHandler_ok c _ t hm
  have hp := hc _ _ hm
  exact ⟨by rw [hr], by rw [hr], by rw [hr], by rw [hr], by rw [hr]; exact hp, read_coded c hc 0 _ t hm⟩

/-- Every error kind, every non-zero code (negatives included), every plain status in the domain,
whether or not the error body can be marshalled: the client reports an error, never code 0; and
when the body marshals, exactly the error's own code (resp. its HTTP status). -/
theorem error_reads_nonzero {T} (c : Codec T) (hc : c.Lawful) (e : Err) (he : ErrWF e) :
    (∃ k, (respondErr c e "").read c = .fail k ∧ k ≠ 0) ∧
    (c.marshal e.body ≠ none ∨ e.kindName = none → (respondErr c e "").read c = .fail (expectedCode e)) := by
  have hne := expected_ne_zero e he
  cases hk : e.kindName with
  | none =>
    obtain ⟨t, s?, rfl⟩ : ∃ t s?, e = .plain t s? := by cases e <;> simp [Err.kindName] at hk ⊢
    have h := read_plain c t s? he.1
    exact ⟨⟨_, h, hne⟩, fun _ => h⟩
  | some k =>
    -- a dispatched error is answered with an object whose first member is its code
    obtain ⟨hd, rest, hb⟩ : e.dispatched = true ∧ ∃ rest, e.body = .obj (mkObj (("code", .num (expectedCode e)) :: rest)) := by
      cases e with
      | plain => cases hk
      | _ => exact ⟨by simp [Err.dispatched, Err.kindName, Gen.Http.errorDispatch], _, rfl⟩
    simp only [respondErr, hd, if_true, hb]
    cases hm : c.marshal (.obj (mkObj (("code", .num (expectedCode e)) :: rest))) with
    | none =>
      rw [jsonHandler_fail c _ _ hm]
      exact ⟨⟨_, read_plain c _ none (by decide), by decide⟩, fun h => by simp at h⟩
    | some t =>
      have h := (read_coded c hc _ rest t hm).trans (if_pos hne)
      exact ⟨⟨_, h, hne⟩, fun _ => h⟩

/-- Success and failure are never confused — stated over what the client receives, the pair
(status, body): no pair is at once the answer to a success and the answer to an error of the domain;
the client separates them (code 0 / error). -/
theorem never_confused {T} (c : Codec T) (hc : c.Lawful) (pid : Nat) (v : JVal) (e : Err) (he : ErrWF e)
    (hm : c.marshal (successEnvelope pid v) ≠ none) :
    let rs := respondData c pid v ""
    let re := respondErr c e ""
    rs.read c = .ok 0 ∧ (∃ k, re.read c = .fail k) ∧ ¬ (rs.status = re.status ∧ rs.body = re.body) := by
  intro rs re
  obtain ⟨t, ht⟩ := Option.ne_none_iff_exists'.mp hm
  obtain ⟨-, -, -, -, -, h1⟩ := success_reads_zero c hc pid v t ht
  obtain ⟨⟨k, hk, _⟩, _⟩ := error_reads_nonzero c hc e he
  refine ⟨h1, ⟨k, hk⟩, ?_⟩
  rintro ⟨hs, hb⟩
  have : rs.read c = re.read c := by simp [Resp.read, hs, hb]
  rw [h1, hk] at this
  cases this

/-- A value that cannot be marshalled yields the error response — status 500, the marshaller's error
text as the whole body (nothing of the value, no truncated JSON), which the client reads as an
error — for the success handler and for every coded error handler, with or without a callback. -/
theorem unmarshalable_is_error {T} (c : Codec T) (pid : Nat) (v : JVal) (cb : String)
    (hm : c.marshal (successEnvelope pid v) = none) :
    let r := respondData c pid v cb
    r.status = 500 ∧ r.ctype = textPlain ∧ r.body = c.text (c.marshalErr (successEnvelope pid v)) ∧
    r.read c = .fail 500 := by
  intro r
  have hr : r = plainResp c (c.marshalErr (successEnvelope pid v)) none := jsonHandler_fail c _ cb hm
  obtain ⟨hs, hb, ht⟩ := plainResp_status c (c.marshalErr (successEnvelope pid v)) none
  rw [hr]
  exact ⟨hs, ht, hb, read_plain c _ none (by decide)⟩

/-- With a callback the very same marshalled bytes are wrapped as `callback(json)`, the content type
is the JavaScript one and the status is unchanged — success and coded errors alike. -/
theorem callback_wraps_same_json {T} (c : Codec T) (rv : JVal) (cb : String) (hcb : cb ≠ "") (t : T)
    (hm : c.marshal rv = some t) :
    (jsonHandler c rv "").body = t ∧
    (jsonHandler c rv cb).body = c.jsonp cb (jsonHandler c rv "").body ∧
    (jsonHandler c rv cb).ctype = "application/javascript" ∧
    (jsonHandler c rv cb).status = (jsonHandler c rv "").status ∧
    (jsonHandler c rv cb).server = true := by
  simp [jsonHandler, hm, hcb, Gen.Http.callbackContentType, Gen.Http.HttpJavaScript]

/-- Instances of `callback_wraps_same_json` for the two users of `jsonHandler`. -/
theorem callback_wraps_success {T} (c : Codec T) (pid : Nat) (v : JVal) (cb : String) (hcb : cb ≠ "") (t : T)
    (hm : c.marshal (successEnvelope pid v) = some t) :
    (respondData c pid v cb).body = c.jsonp cb (respondData c pid v "").body :=
  (callback_wraps_same_json c _ cb hcb t hm).2.1

/-! ### non-vacuity and the F18 regression witness -/

/-- A lawful codec: bodies are either a marshalled tree or raw text; raw text that *looks like*
`{"code":0}` parses to that object (as `encoding/json` would), anything else raw does not parse. -/
def exCodec : Codec (JVal ⊕ String) where
  marshal v := match v with
    | .bad => none
    | .obj (.cons _ _ (.cons _ .bad _)) => none     -- `data` is unmarshalable
    | v => some (.inl v)
  parse
    | .inl v => some v
    | .inr s => if s = "{\"code\":0}\n" then some (.obj (mkObj [("code", .num 0)])) else none
  text s := .inr (s ++ "\n")
  jsonp cb t := match t with
    | .inl _ => .inr (cb ++ "(…)")
    | .inr s => .inr (cb ++ "(" ++ s ++ ")")
  marshalErr _ := "json: unsupported type: chan int"

example : exCodec.Lawful := by
  intro v t h
  simp only [exCodec] at h ⊢
  split at h <;> first | (cases h; rfl) | cases h

example : ErrWF (.sys (-7)) ∧ ErrWF (.cplx 100 "x") ∧ ErrWF (.app 3 "{\"code\":0}" (some 200)) ∧
    ErrWF (.plain "{\"code\":0}" none) ∧ ErrWF (.plain "gone" (some 404)) := by
  refine ⟨?_, ?_, ?_, ?_, ?_⟩ <;> (unfold ErrWF; try unfold plainStatus) <;> decide

example : (respondData exCodec 42 (.str "a\"b") "").read exCodec = .ok 0 := by decide +kernel
example : (respondErr exCodec (.sys (-7)) "").read exCodec = .fail (-7) := by decide +kernel
example : (respondData exCodec 42 .bad "cb").status = 500 := by decide +kernel

/-- F18 (repaired; regression witness). The plain error whose text is `{"code":0}` is answered with
status 500 and that text as the body. The client as it was (status ignored) read it as success … -/
theorem f18_witness_unrepaired_client :
    let r := respondErr exCodec (.plain "{\"code\":0}" none) ""
    r.status = 500 ∧ apiRequestIgnoringStatus exCodec r.status r.body = .ok 0 := by decide +kernel

/-- … the repaired client (the one modelled, gated by `clientChecksStatus`) reports an error. -/
theorem f18_repaired :
    (respondErr exCodec (.plain "{\"code\":0}" none) "").read exCodec = .fail 500 := by decide +kernel

/-- The domain bound on a plain error's own status is necessary: an "error" that declares status 200
and whose text is an envelope is indistinguishable from a success for any client. -/
theorem plain_status_2xx_outside_domain :
    (respondErr exCodec (.plain "{\"code\":0}" (some 200)) "").read exCodec = .ok 0 := by decide +kernel

end Oryx.Props.C19
