/-
  C13 — websocket messages arrive intact, in order, on an RFC 6455/7692-valid wire.
  Only property statements, their proofs from the lemmas of `Oryx.Proofs.WsWrite`, `WsSession`, `WsHandshake` and
  `WsDeadline`, and non-vacuity examples. Models: `Oryx.WsWrite` (write side of conn.go, compression.go, prepared.go),
  `Oryx.Model.WsHs` (opening handshake), `Oryx.Model.WsDeadline` (the shared write deadline); specs: `Oryx.Spec.Ws`
  (`serialise`/`parse`), `Oryx.Spec.Sha1` (accept key).
-/
import Oryx.Proofs.WsSession
import Oryx.Proofs.WsHandshake
import Oryx.Spec.Sha1
import Oryx.Proofs.WsDeadline
namespace Oryx.Props.C13
open Oryx Oryx.WsWrite Oryx.Spec.Ws Oryx.Gen.Websocket

/-- **mask_involution.** Masking is cyclic XOR with the 4-byte key: applying it twice from the same
key position restores the data, for every key (of any length), position and payload. -/
theorem mask_involution (key : Bytes) (pos : Nat) (bs : Bytes) :
    maskBytes key pos (maskBytes key pos bs) = bs :=
  maskBytes_involution key pos bs

/-- The writer's masking, the reader's unmasking and RFC 6455 §5.3 are the same function; a payload
may be (un)masked in pieces with a running key position. -/
theorem mask_is_spec (key : Bytes) (pos : Nat) (a b : Bytes) :
    maskBytes key pos a = xorMask key pos a ∧ maskBytes key pos a = WsRead.maskBytes key pos a ∧
    maskBytes key pos (a ++ b) = maskBytes key pos a ++ maskBytes key (pos + a.length) b :=
  ⟨maskBytes_eq_spec key pos a, maskBytes_eq_read key pos a, maskBytes_append key pos a b⟩

/-- **trunc_writer.** Over ANY partition of a stream into `Write` calls, what the `truncWriter` has
passed downstream followed by what it still holds is the stream, and it holds exactly the last four
bytes (all of it while the stream is shorter): downstream = input minus its last 4 bytes. -/
theorem trunc_writer (parts : List Bytes) :
    (truncRun [] [] parts).2 ++ (truncRun [] [] parts).1 = parts.flatten ∧
    (truncRun [] [] parts).1.length = min 4 parts.flatten.length := by
  simpa using truncRun_spec parts [] [] (Nat.zero_le 4)

/-- **control_frames.** `WriteControl` with a payload of at most 125 bytes writes exactly one frame in
one transport write: FIN, no RSV bits, 7-bit length form, masked with a fresh key iff the sender is
the client — byte for byte `Spec.serialise` of that frame. A longer payload is refused and nothing is
written; once the close latch is set nothing is written either and the latched error comes back. -/
theorem control_frames (c : WConn) (ty : Nat) (data : Bytes) (hty : WsWrite.isControl ty = true) :
    (data.length ≤ 125 → c.writeErr = none →
      writeControl c ty data =
        (afterWrite (if c.isServer then c else (nextKey c).2) ty
           (serialise (outFrame c.isServer (nextKey c).1 ty true false data)), none)) ∧
    (125 < data.length → (writeControl c ty data).1 = c ∧ (writeControl c ty data).2 ≠ none) ∧
    (∀ e, data.length ≤ 125 → c.writeErr = some e →
      (writeControl c ty data).1.sent = c.sent ∧ (writeControl c ty data).2 = some e) :=
  ⟨fun hl he => writeControl_frame c ty data hty hl he,
   fun hl => writeControl_too_long c ty data hl,
   fun e hl he => writeControl_after_close c ty data e he hty hl⟩

/-- The frame `flushFrame` writes (server, any `final`/`extra`; client, `extra = []`) is byte for byte
the spec's wire image of: opcode = current frame type, FIN = `final`, RSV1 = pending compress flag,
mask per role, MINIMAL length form, payload = buffered bytes followed by `extra`. This is the
single place where frames are assembled; `writer_wellformed` below builds on it. -/
theorem flush_is_spec_frame (c : WConn) (w : MW) (final : Bool) (extra : Bytes)
    (he : c.writeErr = none) (hft : w.frameType < 16)
    (hctl : (WsWrite.isControl w.frameType && (!final || w.buf.length + extra.length > maxControlFramePayloadSize)) = false)
    (hx : c.isServer = false → extra = []) :
    (flushFrame c w final extra).2.2 = none ∧
    (flushFrame c w final extra).1.sent =
      serialise (outFrame c.isServer (nextKey c).1 w.frameType final w.compress (w.buf ++ extra)) :: c.sent := by
  rw [flushFrame_ok c w final extra he hft hctl hx]
  cases final <;> simp

/-- With a sync-flushed deflate stream (`z` followed by `00 00 ff ff`) written through the `truncWriter`
in ANY chunking, exactly `z` goes downstream and the four withheld bytes are the tail the `Close` of
the flate wrapper checks for: the message payload on the wire is `z` (RFC 7692 §7.2.1). -/
theorem trunc_sync_flush (chunks : List Bytes) (z : Bytes) (h : chunks.flatten = z ++ [0, 0, 0xff, 0xff]) :
    truncRun [] [] chunks = ([0, 0, 0xff, 0xff], z) := by
  rw [truncRun_eq, h]; simp

/-- **writer_payload.** For EVERY write-buffer size `B ≥ 1`, either role, text or binary, compressed flag
or not, any masking keys, and EVERY sequence of `Write` / `WriteString` / `ReadFrom` calls — i.e. every
partition of the payload into calls and every chunking of the `io.Reader` — no call fails, `Close`
succeeds, and the concatenated (unmasked) payloads of the frames that reached the transport equal the
concatenation of the writes. -/
theorem writer_payload (c : WConn) (ty : Nat) (cz : Bool) (hty : ty = TextMessage ∨ ty = BinaryMessage)
    (hB : 1 ≤ c.bufSize) (hE : c.writeErr = none) (hK : ∀ k ∈ c.keys, k.length = 4) (ops : List WOp) :
    ∃ c1 w1 c2 w2, ∃ frames : List Frame,
      mwOps c { compress := cz, buf := [], frameType := ty } ops = (c1, w1, none) ∧
      mwClose c1 w1 = (c2, w2, none) ∧
      c2.sent = (frames.map serialise).reverse ++ c.sent ∧
      (frames.map (·.payload)).flatten = (ops.map WOp.data).flatten := by
  obtain ⟨c1, w1, c2, w2, frames, h1, h2, hw⟩ := writer_message c ty cz hty hB hE hK ops
  exact ⟨c1, w1, c2, w2, frames, h1, h2, hw.sent, hw.payload⟩

/-- **writer_wellformed.** … and those frames form one well-shaped message: at least one frame; the
first carries the message type (and RSV1 iff the message is compressed), every other frame is a
continuation without RSV1; FIN on the last frame and only there; RSV2/RSV3 clear; masked with a 4-byte
key iff the sender is the client; always the MINIMAL length form; what was appended to the wire is
byte for byte their RFC 6455 wire image, and the independent parser `Spec.Ws.parse` (sender rules for
this role; `deflate` = compression negotiated, required for a compressed message) accepts those bytes
and returns exactly these frames. (Payload below 2^63 bytes, as any Go slice.) -/
theorem writer_wellformed (c : WConn) (ty : Nat) (cz : Bool) (hty : ty = TextMessage ∨ ty = BinaryMessage)
    (hB : 1 ≤ c.bufSize) (hE : c.writeErr = none) (hK : ∀ k ∈ c.keys, k.length = 4) (ops : List WOp)
    (deflate : Bool) (hdef : cz = true → deflate = true) (hlen : (ops.map WOp.data).flatten.length < 2 ^ 63) :
    ∃ c1 w1 c2 w2 frames,
      mwOps c { compress := cz, buf := [], frameType := ty } ops = (c1, w1, none) ∧
      mwClose c1 w1 = (c2, w2, none) ∧
      c2.wire = c.wire ++ serialiseAll frames ∧
      parse (senderRole c.isServer) deflate (serialiseAll frames) = .ok frames ∧
      MsgShape c.isServer ty cz frames := by
  obtain ⟨c1, w1, c2, w2, frames, h1, h2, hw⟩ := writer_message c ty cz hty hB hE hK ops
  exact ⟨c1, w1, c2, w2, frames, h1, h2, hw.wire, hw.parse hty hdef hlen, hw.shape⟩

/-- The server's single-frame fast path of `WriteMessage` (no compression): exactly one final frame with
the whole payload — the part copied into the buffer followed by the `extra` part — for every buffer
size and payload. -/
theorem fastpath_single_frame (c : WConn) (ty : Nat) (data : Bytes) (hs : c.isServer = true) (hd : c.deflate = false)
    (hw : c.writer = none) (hE : c.writeErr = none) (hty : ty = TextMessage ∨ ty = BinaryMessage) :
    (writeMessage c ty data).2 = none ∧
    (writeMessage c ty data).1.sent = serialise (outFrame true [] ty true false data) :: c.sent :=
  writeMessage_fastpath c ty data hs hd hw hE hty

/-- **C13_session.** Any sequence of text/binary messages, each written through any mix and partition of
`Write`/`WriteString`/`ReadFrom` calls, by a client or a server writer with any buffer size ≥ 1 and any
masking keys, compression negotiated or not: the reader model of the PEER (opposite role, same
negotiation), fed exactly the bytes the writer model put on the wire, delivers the same sequence of
(type, payload) — for compressed messages the payload is the deflate output `z` of
`trunc_sync_flush`, flagged `compressed`, which `inflate` turns back into the message by the recorded
assumption `inflate (deflate x) = x` — writes nothing back, and then sees the end of the stream.
(Composition of `writer_wellformed`, the C14 refinement of `Spec.Ws.recv`, and the spec receiver's
behaviour on well-shaped messages.) -/
theorem C13_session (isServer deflate : Bool) (B : Nat) (hB : 1 ≤ B) (keys : List Bytes)
    (hK : ∀ k ∈ keys, k.length = 4) (msgs : List (Nat × List WOp))
    (hall : ∀ m ∈ msgs, (m.1 = TextMessage ∨ m.1 = BinaryMessage) ∧ (m.2.map WOp.data).flatten.length < 2 ^ 63) :
    let c0 : WConn := { isServer := isServer, bufSize := B, deflate := deflate, keys := keys }
    (writeMsgs c0 msgs).2 = none ∧
    ∃ t, WsRead.session (WsRead.init (!isServer) deflate 0 (writeMsgs c0 msgs).1.wire) = some t ∧
      t.msgs = msgs.map (fun m => { ty := m.1, compressed := deflate, data := (m.2.map WOp.data).flatten }) ∧
      t.final.replies = [] ∧ t.err = .ueof :=
  WsSession.session_roundtrip isServer deflate B hB keys hK msgs hall

/-! ### the opening handshake (Dial / Upgrade, accept key, extension negotiation)

Model.WsHandshake: util.go's octet classes and parsers, the decision and response of `Upgrader.Upgrade`, the request of
`Dialer.Dial` and its check of the response. `ak` is `computeAcceptKey` (SHA-1 and base64 are a parameter; the driver
compares the library's value with an independent computation over the GUID gated below). -/

open Oryx.Model.WsHs in
/-- util.go's token octets are exactly RFC 7230's `tchar`. -/
theorem hs_token_octets : ∀ c : UInt8, isTokenOctet c = isTchar c := token_octet_is_tchar

open Oryx.Model.WsHs in
/-- `tokenListContainsValue` on a well-formed `1#token` header value (tokens separated by commas, optional white
space around them) answers whether one of the tokens is `value` up to case. -/
theorem hs_token_list (l : List Elem) (hl : l ≠ []) (hwf : ∀ e ∈ l, e.wf) (value : Bytes) :
    tlcvOne (renderElems l) value = l.any (fun e => eqFoldC e.tok value) := tlcvOne_rendered l hl hwf value

open Oryx.Model.WsHs in
/-- **`parseExtensions` reads back what the grammar of RFC 6455 section 9.1 writes**: a non-empty list of extensions
(names and parameter names tokens, parameter values tokens or absent) written `name; key=value; key, name…` — the
spelling the library itself uses in its offer and its answer — parses to exactly those extensions: the name under
`""`, the parameters as a map (a repeated key keeps its last value). -/
theorem hs_extension_list (es : List (Bytes × List (Bytes × Bytes))) (hne : es ≠ []) (hok : ∀ e ∈ es, ExtOK e) :
    parseExtensions [renderExts es] = es.map extOf := parseExtensions_rendered es hne hok

open Oryx.Model.WsHs in
/-- The list parsers of util.go terminate: the fuel of the two loops is never exhausted. -/
theorem hs_parsers_terminate (s value : Bytes) (acc : List Ext) :
    (tlcvOneF (s.length + 1) s value).isSome = true ∧ (parseExtValueF (s.length + 1) s acc).isSome = true :=
  ⟨tlcv_fuel s value, parseExtValueF_fuel s acc⟩

open Oryx.Model.WsHs in
/-- **The server's decision, stated outright.** `Upgrade` sets a session up exactly for a GET request that lists
`upgrade` in Connection, `websocket` in Upgrade and `13` in Sec-Websocket-Version, comes from an allowed origin, has
a non-empty key and has not sent anything after its header block (and the application did not try to set the
extensions header itself). -/
theorem hs_server_decision (ak : Bytes → Bytes) (u : Upgrader) (rh : Option Header) (r : Request) :
    (∃ l c s, upgrade ak u rh r = .accept l c s) ↔ acceptable u rh r = true :=
  ⟨fun ⟨_, _, _, h⟩ => ((upgrade_eq_accept_iff ..).1 h).1,
   fun h => ⟨_, _, _, (upgrade_eq_accept_iff ..).2 ⟨h, rfl, rfl, rfl⟩⟩⟩

open Oryx.Model.WsHs in
/-- What an accepted request gets: compression exactly when the server enabled it AND the client offered
permessage-deflate; the accept key of the request's challenge; the selected subprotocol; the fixed response lines. -/
theorem hs_server_response (ak : Bytes → Bytes) (u : Upgrader) (rh : Option Header) (r : Request) (l : Header) (c : Bool) (s : Bytes)
    (h : upgrade ak u rh r = .accept l c s) :
    c = (u.enableCompression && offersPmd r) ∧ s = selectSubprotocol u r rh ∧
    l = fixedLines (ak (hfirst r.header (ascii "Sec-Websocket-Key"))) s c ++
        ((rh.getD []).filter (fun p => p.1 != ascii "Sec-Websocket-Protocol")).map (fun p => (p.1, p.2.map sanitize)) :=
  ((upgrade_eq_accept_iff ..).1 h).2

open Oryx.Model.WsHs in
/-- **The client's decision, stated outright.** `Dial` returns a connection exactly for a 101 response whose Upgrade
and Connection values fold to `websocket` / `upgrade` and whose accept key is the one of ITS challenge; compression is
on exactly when the response carries permessage-deflate, and then only with both no_context_takeover parameters
(otherwise the handshake fails as invalid, see `hs_client_bad`). -/
theorem hs_client_decision (ak : Bytes → Bytes) (key : Bytes) (status : Nat) (h : Header) (c : Bool) (sub : Bytes) :
    clientCheck ak key status h = .accept c sub ↔
      responseOk ak key status h = true ∧ sub = hfirst h (ascii "Sec-Websocket-Protocol") ∧
      (match answeredPmd h with
       | none => c = false
       | some e => c = true ∧ extHas e snct = true ∧ extHas e cnct = true) :=
  clientCheck_eq_accept_iff ak key status h c sub

open Oryx.Model.WsHs in
theorem hs_client_bad (ak : Bytes → Bytes) (key : Bytes) (status : Nat) (h : Header) :
    clientCheck ak key status h = .badHandshake ↔ responseOk ak key status h = false :=
  clientCheck_eq_bad_iff ak key status h

open Oryx.Model.WsHs in
/-- **The library's client and server agree** (the clause "sessions set up through the library's own opening
handshake obey the same" rests on this): for every pair of configurations, every non-empty challenge key and every
set of extra request headers that does not use one of the handshake's own names, the server accepts the request the
client writes, the client accepts the response the server writes, and both ends hold the SAME compression setting —
on exactly when both sides enabled it — and the same subprotocol. -/
theorem hs_agree (ak : Bytes → Bytes) (d : Dialer) (u : Upgrader) (key : Bytes) (reqHdr : Header)
    (hkey : key ≠ []) (horigin : u.originOk = true)
    (huser : ∀ p ∈ reqHdr, canon p.1 ∉ requestNames ∧ (d.subprotocols.isEmpty = false → canon p.1 ≠ ascii "Sec-Websocket-Protocol")) :
    ∃ lines sub,
      handshake ak d u key reqHdr =
        some (.accept lines (d.enableCompression && u.enableCompression) sub,
              some (.accept (d.enableCompression && u.enableCompression) sub)) :=
  ⟨_, _, handshake_eq ak d u key reqHdr hkey horigin huser⟩

open Oryx.Model.WsHs in
/-- **`parseURL` on every well-formed ws-URI** (RFC 6455 section 3: `ws:` / `wss:`, `//`, host[:port], a path that is
empty or starts with `/`, optionally `?` and a query) gives back exactly its parts; an absent path becomes `/`. -/
theorem hs_ws_uri (secure : Bool) (host path query : Bytes) (hasQuery : Bool)
    (hh : host.contains 47 = false ∧ host.contains 63 = false ∧ host.contains 64 = false)
    (hp : path = [] ∨ ∃ t, path = 47 :: t) (hpq : path.contains 63 = false) (hq : hasQuery = false → query = []) :
    parseURL (renderURI secure host path query hasQuery) =
      some { scheme := if secure then ascii "wss" else ascii "ws", host := host,
             path := if path.isEmpty then [47] else path, rawQuery := query } :=
  parseURL_rendered secure host path query hasQuery hh hp hpq hq

open Oryx.Model.WsHs in
/-- The address `Dial` connects to: the URI's own port when it has one, otherwise 80 (`ws`) / 443 (`wss`). -/
theorem hs_dial_address (u : WsURL) :
    (lastIndex 58 u.host ≤ lastIndex 93 u.host →
      (hostPortNoPort u).1 = u.host ++ (if u.scheme == ascii "wss" || u.scheme == ascii "https" then ascii ":443" else ascii ":80")
      ∧ (hostPortNoPort u).2 = u.host) ∧
    (lastIndex 58 u.host > lastIndex 93 u.host → (hostPortNoPort u).1 = u.host) :=
  ⟨hostPortNoPort_default u, hostPortNoPort_explicit u⟩

/-- The accept key as RFC 6455 section 4.2.2 defines it (Spec.Sha1: SHA-1 from FIPS 180-4 and base64 from RFC 4648,
written from the standards) on the example of RFC 6455 section 1.3. The driver compares `computeAcceptKey` with this
specification on every key it uses. -/
theorem hs_accept_key_rfc_sample :
    Oryx.Spec.Sha1.acceptKey (Oryx.Model.WsHs.ascii "dGhlIHNhbXBsZSBub25jZQ==") = Oryx.Model.WsHs.ascii "s3pPLMBiTxaQ9kYGzzhZRbK+xOo=" := by
  repeat rw [Oryx.Model.WsHs.ascii_ofList]
  decide +kernel

section
open Oryx.Model.WsDeadline Oryx.Proofs.WsDeadline
/-- the library's write paths under the fact the translator reads from conn.go on every run -/
def libDeadlineRun := run Oryx.Gen.Websocket.writesArmOwnDeadline

/-- gate: every function that writes to the transport arms it with the deadline of its own write, unconditionally -/
theorem ws_deadline_fact : Oryx.Gen.Websocket.writesArmOwnDeadline = true := by decide

/-- **The shared write deadline never leaks from one frame to another**: for EVERY history of data writes (under the
connection's write deadline of the moment, possibly none) and control writes (each under the deadline of its call —
the pongs and close replies the library sends by itself included), from any state of the transport, the outcome of each
write and the frames on the wire are those of the specification in which a write depends only on its own deadline and
on the documented latch (an earlier data write that timed out). -/
theorem ws_deadline_own (c : Conn) (ops : List Op) :
    abs (libDeadlineRun c ops).1 = (specRun (abs c) ops).1 ∧ (libDeadlineRun c ops).2 = (specRun (abs c) ops).2 := by
  unfold libDeadlineRun; rw [ws_deadline_fact]; exact run_refines c ops

/-- ... in particular a history whose writes all respect their own deadlines (none, or not yet passed) succeeds
entirely and reaches the wire in order, whatever deadline an earlier frame had left armed on the transport. -/
theorem ws_deadline_all_delivered (c : Conn) (ops : List Op) (hl : c.latched = false)
    (h : ∀ op ∈ ops, op.ownDeadlineOk = true) :
    (libDeadlineRun c ops).2 = ops.map (fun _ => true) ∧ (libDeadlineRun c ops).1.wire = c.wire ++ ops.map Op.id := by
  unfold libDeadlineRun; rw [ws_deadline_fact]; exact run_ownDeadlineOk c ops hl h

/-- the hypothesis of `ws_deadline_fact` matters: the variant that skips arming for "no deadline" loses a message -/
theorem ws_deadline_skip_variant_breaks :
    (run false {} [.control 0 (some 1) 1, .data 5 none 2]).2 = [true, false] ∧
    (specRun {} [.control 0 (some 1) 1, .data 5 none 2]).2 = [true, true] := by decide

/-- non-vacuity: a transport with an expired deadline armed; a pong, five time units later a data message without a
deadline, a data message whose own deadline has passed (fails and latches), and a ping after that -/
example : libDeadlineRun { armed := some 0 } [.control 10 (some 11) 1, .data 15 none 2, .data 16 (some 15) 3, .control 17 none 4] =
    ({ armed := some 15, latched := true, wire := [1, 2] }, [true, true, false, false]) := by decide
end

/-- gate: the specification's GUID is the one util.go hashes -/
example : Oryx.Spec.Sha1.guid = Oryx.Model.WsHs.ascii Oryx.Gen.Websocket.keyGUID := rfl

/-- gate: the GUID hashed into the accept key is RFC 6455's (regenerated from util.go on every run) -/
example : Oryx.Gen.Websocket.keyGUID = "258EAFA5-E914-47DA-95CA-C5AB0DC85B11" := rfl
example : Oryx.Gen.Websocket.isTokenOctet = 1 ∧ Oryx.Gen.Websocket.isSpaceOctet = 2 := by decide

section
open Oryx.Model.WsHs
/-- non-vacuity: a concrete handshake (compression on both sides, subprotocol `chat`, an extra Origin header) -/
example :
    handshake (fun k => k ++ ascii "+accept") { enableCompression := true, subprotocols := [ascii "chat", ascii "superchat"] }
      { enableCompression := true, subprotocols := some [ascii "superchat", ascii "chat"] } (ascii "dGhlIHNhbXBsZSBub25jZQ==")
      [(ascii "Origin", [ascii "http://example.com"])] =
    some (.accept (fixedLines (ascii "dGhlIHNhbXBsZSBub25jZQ==+accept") (ascii "superchat") true) true (ascii "superchat"),
          some (.accept true (ascii "superchat"))) := by
  repeat rw [ascii_ofList]
  decide +kernel
/-- the hypotheses of `hs_agree` are met by that configuration -/
example : ∀ p ∈ [(ascii "Origin", [ascii "http://example.com"])],
    canon p.1 ∉ requestNames ∧ ((([ascii "chat"] : List Bytes).isEmpty = false) → canon p.1 ≠ ascii "Sec-Websocket-Protocol") := by
  repeat rw [ascii_ofList]
  decide +kernel
/-- ws URIs: an IPv6 literal without a port gets `:80`, `?` in the query stays, user information is refused -/
example : (parseURL (ascii "ws://[::1]/p?a?b")).map (fun u => (requestURI u, hostPortNoPort u)) =
    some (ascii "/p?a?b", (ascii "[::1]:80", ascii "[::1]")) := by
  repeat rw [ascii_ofList]
  decide +kernel
example : parseURL (ascii "ws://user:pw@example.com/") = none := by
  repeat rw [ascii_ofList]
  decide +kernel
/-- an extension list in the grammar's spelling: the hypotheses of `hs_extension_list` hold and the list reads back -/
example : parseExtensions [renderExts [(ascii "foo", [(ascii "a", ascii "1"), (ascii "b", [])]), (pmd, [(ascii "client_max_window_bits", [])])]] =
    [[([], ascii "foo"), (ascii "a", ascii "1"), (ascii "b", [])], [([], pmd), (ascii "client_max_window_bits", [])]] := by
  repeat rw [ascii_ofList]
  decide +kernel
/-- a well-formed token list: `keep-alive , Upgrade` contains `upgrade` -/
example : tlcvOne (renderElems [⟨[], ascii "keep-alive", [32]⟩, ⟨[32], ascii "Upgrade", []⟩]) (ascii "upgrade") = true := by
  repeat rw [ascii_ofList]
  decide +kernel
/-- a third-party client that offers another extension first is still answered with compression -/
example : offersPmd { method := ascii "GET", header := [(ascii "Sec-Websocket-Extensions", [ascii "foo; a=\"b,c\", permessage-deflate; client_max_window_bits"])] } = true := by
  repeat rw [ascii_ofList]
  decide +kernel
/-- a response with permessage-deflate but without client_no_context_takeover is refused as invalid compression -/
example : clientCheck id (ascii "k") 101
    [(ascii "Upgrade", [ascii "websocket"]), (ascii "Connection", [ascii "Upgrade"]), (ascii "Sec-Websocket-Accept", [ascii "k"]),
     (ascii "Sec-Websocket-Extensions", [ascii "permessage-deflate; server_no_context_takeover"])] = .invalidCompression := by
  repeat rw [ascii_ofList]
  decide +kernel
end

/-! ### non-vacuity -/

-- a client with a 4-byte buffer writes "abcdefghij" as Write("abc"), WriteString("defg"), ReadFrom("hij"
-- in 2-byte chunks): three masked frames 4+4+2, first text, then continuations, FIN on the last
def exClient : WConn :=
  { isServer := false, bufSize := 4, deflate := false, keys := [[1, 2, 3, 4], [5, 6, 7, 8], [9, 9, 9, 9]] }
def exOps : List WOp := [.write [97, 98, 99], .writeString [100, 101, 102, 103], .readFrom [2] [104, 105, 106]]
example : (writeMsgs exClient [(1, exOps)]).1.wire =
    [0x01, 0x84, 1, 2, 3, 4, 96, 96, 96, 96,   0x00, 0x84, 5, 6, 7, 8, 96, 96, 96, 96,   0x80, 0x82, 9, 9, 9, 9, 96, 99] := by
  decide +kernel
example : (parse .client false
    [0x01, 0x84, 1, 2, 3, 4, 96, 96, 96, 96,   0x00, 0x84, 5, 6, 7, 8, 96, 96, 96, 96,   0x80, 0x82, 9, 9, 9, 9, 96, 99]).toOption =
    some [ outFrame false [1, 2, 3, 4] 1 false false [97, 98, 99, 100],
           outFrame false [5, 6, 7, 8] 0 false false [101, 102, 103, 104],
           outFrame false [9, 9, 9, 9] 0 true false [105, 106] ] := by decide +kernel
example : truncRun [] [] [[1, 2], [3, 0, 0], [0xff, 0xff]] = ([0, 0, 0xff, 0xff], [1, 2, 3]) := by decide

example : maskBytes [1, 2, 3, 4] 1 [0x61, 0x62, 0x63, 0x64, 0x65] = [0x63, 0x61, 0x67, 0x65, 0x67] := by decide
example : truncRun [] [] [[1], [2, 3], [4, 5, 6, 7], [8]] = ([5, 6, 7, 8], [1, 2, 3, 4]) := by decide
-- a server ping is `89 02 'h' 'i'`, a client pong with key 5,6,7,8 is `8a 80 05 06 07 08`
example : (writeControl { isServer := true, bufSize := 16, deflate := false, keys := [] } 9 [0x68, 0x69]).1.wire =
    [0x89, 0x02, 0x68, 0x69] := by decide
example : (writeControl { isServer := false, bufSize := 16, deflate := false, keys := [[5, 6, 7, 8]] } 10 []).1.wire =
    [0x8a, 0x80, 5, 6, 7, 8] := by decide

end Oryx.Props.C13
