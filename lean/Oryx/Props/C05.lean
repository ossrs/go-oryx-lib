/-
  C05 — AMF0 values round-trip and report their exact encoded size.
  Only property statements, their proofs from the helper lemmas (Oryx/Proofs/Amf0*.lean), and
  non-vacuity examples. Model: Oryx/Model/Amf0.lean = amf0/amf0.go after the two repairs
  (F5: the decoder keeps properties with a repeated name; F6: a strict array marshals the number of
  its elements as count).
-/
import Oryx.Proofs.Amf0Extra
namespace Oryx.Props.C05
open Oryx Oryx.Res Oryx.Amf0

/-- Marshalling yields exactly `Size()` bytes — for EVERY value tree (no well-formedness needed). -/
theorem encode_len (v : Val) : (encode v).length = size v := encode_length v

/-- Unmarshalling the marshalled bytes (followed by anything) yields an equal tree — keys in the
original order, repeated keys kept — and leaves exactly the trailing bytes. -/
theorem decode_encode (v : Val) (h : v.WF) (rest : Bytes) :
    decode (encode v ++ rest) = ok (v, rest) :=
  Amf0.decode_encode h rest

/-- Re-marshalling what was unmarshalled reproduces the bytes. -/
theorem reencode (v : Val) (h : v.WF) (rest : Bytes) :
    ∃ v' r, decode (encode v ++ rest) = ok (v', r) ∧ encode v' = encode v ∧ size v' = size v :=
  ⟨v, rest, decode_encode v h rest, rfl, rfl⟩

/-- For EVERY byte string that decodes, `Size()` of the result is the number of bytes consumed, and
what follows is exactly the input advanced by `Size()`: a caller that advances by `Size()` stays
aligned on the next value. -/
theorem size_consumed (bs : Bytes) (v : Val) (rest : Bytes) (h : decode bs = ok (v, rest)) :
    size v = bs.length - rest.length ∧ size v ≤ bs.length ∧ rest = bs.drop (size v) := by
  obtain ⟨h1, h2⟩ := decode_skip h
  refine ⟨?_, h1, h2⟩
  rw [h2, List.length_drop]; omega

/-- Numbers are bit-exact: every 64-bit pattern (NaN payloads, signalling NaNs, ±0, ±∞, denormals)
survives the round trip unchanged. (`math.Float64bits`/`Float64frombits` transparency is trusted.) -/
theorem number_bits (bits : UInt64) (rest : Bytes) :
    decode (encode (.num bits) ++ rest) = ok (.num bits, rest) ∧
    encode (.num bits) = 0 :: be 8 bits.toNat :=
  ⟨decode_encode _ (by rfl) rest, rfl⟩

/-- No byte string makes the decoder panic: in particular the slice `p[a.Size():]` in the container
loop is always in range, and the recursion fuel of the model is never exhausted. -/
theorem decode_never_panics (bs : Bytes) : decode bs ≠ .panic := decode_ne_panic bs

/-- Fuel is only a device: any fuel above the input length is enough for every decoder entry. -/
theorem fuel_never_exhausted (fuel : Nat) (bs : Bytes) (h : bs.length < fuel) :
    decodeVal fuel bs ≠ .panic ∧ decodeProps fuel bs ≠ .panic ∧ ∀ n, decodeElems fuel n bs ≠ .panic :=
  ⟨(decodeVal_sat h).ne_panic, (decodeProps_sat h).ne_panic, fun n => (decodeElems_sat h n).ne_panic⟩

/-- The whole property, as one proposition. -/
def C05_statement : Prop :=
  (∀ v : Val, (encode v).length = size v) ∧
  (∀ v : Val, v.WF → ∀ rest, decode (encode v ++ rest) = ok (v, rest)) ∧
  (∀ bs v rest, decode bs = ok (v, rest) → size v = bs.length - rest.length ∧ rest = bs.drop (size v))

/-- C05 holds in full for the repaired code. -/
theorem C05_holds : C05_statement :=
  ⟨encode_len, decode_encode, fun bs v rest h => let ⟨h1, _, h3⟩ := size_consumed bs v rest h; ⟨h1, h3⟩⟩

/-- Every byte string that decodes yields a well-formed tree; hence it re-marshals to exactly the
consumed bytes' length, and unmarshalling the re-marshalled bytes gives the same tree again. -/
theorem decoded_is_stable (bs : Bytes) (v : Val) (rest : Bytes) (h : decode bs = ok (v, rest)) :
    v.WF ∧ (encode v).length = bs.length - rest.length ∧
    ∀ tail, decode (encode v ++ tail) = ok (v, tail) :=
  ⟨decode_wf h, by rw [encode_len]; exact (size_consumed bs v rest h).1,
   fun tail => decode_encode v (decode_wf h) tail⟩

/-! ### the property bag (`objectBase.Get` / `Set`) -/

/-- `Set` then `Get` of the same key returns the value set (an existing key is replaced in place,
a new one appended at the end); other keys are undisturbed. -/
theorem get_set (ps : Props) (k k' : Bytes) (v : Val) :
    (ps.set k v).get k = some v ∧ (k' ≠ k → (ps.set k v).get k' = ps.get k') :=
  ⟨Props.get_set_same k v ps, fun h => Props.get_set_other k v h ps⟩

/-- A container filled through `Set` alone has no repeated key (repeats arise only from decoding). -/
theorem set_keeps_keys_distinct (ps : Props) (k : Bytes) (v : Val) (h : ps.keys.Nodup) :
    (ps.set k v).keys.Nodup := Props.keys_nodup_set k v ps h

/-! ### instrumented cost (finding K3, reported under C07) -/

/-- `d` objects nested in each other: the encoding is `(6+|k|)·d + 1` bytes long but decoding costs
`(d+1)²` steps when the `a.Size()` re-walk of every child is charged — quadratic in the input length. -/
theorem nested_cost_quadratic (k : Bytes) (d : Nat) :
    size (nest k d .null) = (6 + k.length) * d + 1 ∧ costV true (nest k d .null) = d * d + 2 * d + 1 :=
  ⟨size_nest k d, costV_nest k d⟩

/-! ### regression witnesses of the repaired defects -/

/-- F5: `03 0001'a' 05 0001'a' 05 000009` — both properties are kept, 12 bytes consumed, Size() = 12
(before the repair: one property, Size() = 8). -/
theorem F5_regression :
    decode [3, 0, 1, 97, 5, 0, 1, 97, 5, 0, 0, 9] = ok (.obj (.cons [97] .null (.cons [97] .null .nil)), []) ∧
    size (.obj (.cons [97] .null (.cons [97] .null .nil))) = 12 := by decide +kernel

/-- F5, nested: the outer object's next property is found after an inner object with a repeated key. -/
theorem F5_nested_regression :
    decode [3, 0,1,111, 3,0,1,97,5,0,1,97,5,0,0,9, 0,1,122,5, 0,0,9] =
      ok (.obj (.cons [111] (.obj (.cons [97] .null (.cons [97] .null .nil))) (.cons [122] .null .nil)), []) := by decide +kernel

/-- F6: `NewStrictArray().Set("x", 1.0)` marshals count 1 and decodes back to the same array. -/
theorem F6_regression :
    encode (.strict (.cons [120] (.num 0x3FF0000000000000) .nil)) =
      [0x0a, 0, 0, 0, 1, 0, 1, 120, 0, 0x3f, 0xf0, 0, 0, 0, 0, 0, 0] ∧
    decode (encode (.strict (.cons [120] (.num 0x3FF0000000000000) .nil))) =
      ok (.strict (.cons [120] (.num 0x3FF0000000000000) .nil), []) := by decide +kernel

/-! ### non-vacuity: concrete inhabitants of the hypotheses -/

/-- A nested tree with an empty key, a repeated key, an ECMA array with an approximate count,
a strict array, a NaN with payload and −0. -/
def exTree : Val :=
  .obj (.cons [] (.num 0x7FF8000000000001)
       (.cons [97] (.ecma 7 (.cons [98] (.str [104, 105]) (.cons [98] (.bool true) .nil)))
       (.cons [97] (.strict (.cons [120] (.num 0x8000000000000000) (.cons [] .undef .nil)))
       (.cons [99] .null .nil))))

example : exTree.WF := by decide
example : decode (encode exTree ++ [0, 0, 9]) = ok (exTree, [0, 0, 9]) := decode_encode exTree (by decide) _
example : (encode exTree).length = 66 := by rw [encode_len]; rfl
example : ∃ v rest, decode [0, 0x7f, 0xf8, 0, 0, 0, 0, 0, 1, 0xaa] = ok (v, rest) := ⟨_, _, rfl⟩
example : ([3, 0, 0, 9] : Bytes).length < 5 := by decide
example : (Props.nil.set [97] .null).keys.Nodup := by decide
example : ([98] : Bytes) ≠ [97] := by decide

end Oryx.Props.C05
