/-
  C07 — untrusted bytes never crash or stall a decoder.

  Cross-cutting: this file only collects, per modelled decoder, (a) the no-panic theorem, which also
  says the loop fuel `len + 1` of the model is never exhausted — i.e. the loop runs at most `len + 1`
  times, the iteration bound that is the model-level content of "time linear in the input"
  (every iteration does a bounded amount of work apart from copying bytes it consumes); (b) where a
  decoder pays more than that per iteration (AMF0 re-walking a child with `Size()`), an explicit cost
  function and its bound; (c) totality of the enum helpers over the whole range of their integer types,
  proved on the definitions the translator regenerates from the Go source on every run.

  NOT modelled (covered only by the fuzz/timing support run of `corr C07`, stated in the evidence):
  OCSP / encoding/asn1, JWK key parsing, encoding/json paths, compress/flate, the websocket HTTP
  handshake. Wall-clock linearity and stack depth are runtime facts; the theorem is about the cost model.
-/
import Oryx.Props.C02
import Oryx.Props.C03
import Oryx.Props.C05
import Oryx.Props.C09
import Oryx.Props.C10
import Oryx.Props.C11
import Oryx.Props.C12
import Oryx.Props.C14
import Oryx.Props.C16
import Oryx.Props.C17
namespace Oryx.Props.C07
open Oryx Oryx.Res

/-! ### (a) no decoder panics, on any byte string -/

/-- AMF0: `Discovery` + `UnmarshalBinary` of every supported type, any nesting. -/
theorem amf0_never_panics (bs : Bytes) : Amf0.decode bs ≠ .panic := C05.decode_never_panics bs

/-- RTMP chunk reader: `ReadMessage` on any byte string, from any reachable reader state (the invariant
holds initially and is preserved by every successful read); a whole session of `k` reads likewise.
The `make([]byte, negative)` guard, the nil dereference of `chunk.message` and the exhaustion of the
loop fuel (`len + 1` iterations) are unreachable. -/
theorem rtmp_reader_never_panics (st : Rtmp.Reader) (bs : Bytes) (hst : Rtmp.ReaderInv st) (k : Nat) :
    Rtmp.readMessage st bs ≠ .panic ∧ Rtmp.readMessages k {} bs ≠ .panic :=
  ⟨C02.reader_never_panics st bs hst, C02.reader_never_panics_session k bs⟩

/-- RTMP message decoder: `DecodeMessage`/`parseAMFObject` for every message type and transaction
table, every packet's `UnmarshalBinary`, and the typed waits. -/
theorem rtmp_packets_never_panic (tbl : RtmpPkt.TxnTable) (m : Rtmp.Msg) (k : RtmpPkt.Kind) (data : Bytes) :
    RtmpPkt.dispatch tbl m ≠ .panic ∧ RtmpPkt.unmarshal k data ≠ .panic :=
  ⟨C03.decode_never_panics tbl m, C03.unmarshal_never_panics k data⟩

/-- FLV demuxer (header, tag header, `ReadTag` for ANY size argument, whole-file loop) and both tag
body decoders. -/
theorem flv_never_panics (s : Bytes) :
    Flv.readHeader s ≠ .panic ∧ Flv.readTagHeader s ≠ .panic ∧ (∀ size, Flv.readTag size s ≠ .panic) ∧
    Flv.demux s ≠ .panic ∧ Flv.decodeAudio s ≠ .panic ∧ Flv.decodeVideo s ≠ .panic := by
  obtain ⟨hh, hth, ht, hd, _⟩ := C09.demux_never_panics s
  exact ⟨hh, hth, ht, hd, C10.decoders_never_panic s⟩

/-- ADTS `Decode` (any prior receiver state), the frame-by-frame caller loop, and AudioSpecificConfig. -/
theorem aac_never_panics (st : Aac.Asc) (bs : Bytes) :
    (Aac.adtsDecode st bs).2 ≠ .panic ∧ Aac.decodeStream (bs.length + 1) st bs ≠ .panic ∧
    (Aac.ascUnmarshal st bs).2 ≠ .panic := by
  obtain ⟨hd, hs, hu, _⟩ := C11.decoders_never_panic st bs
  exact ⟨hd, hs, hu⟩

/-- AVC NAL unit, configuration record, and sample for every NAL length size. -/
theorem avc_never_panics (bs : Bytes) :
    Avc.naluUnmarshal bs ≠ .panic ∧ Avc.recordUnmarshal bs ≠ .panic ∧ ∀ n, 1 ≤ n → n ≤ 7 → Avc.sampleUnmarshal n bs ≠ .panic :=
  C12.decoders_never_panic bs

/-- WebSocket frame reader: `advanceFrame`, `NextReader`, `ReadMessage` from ANY reader state (role, limits,
partial message, whatever bytes are still to come); a whole session always ends (no exhausted fuel). -/
theorem websocket_reader_never_panics (s : WsRead.RState) :
    WsRead.advanceFrame s ≠ .panic ∧ WsRead.nextReader s ≠ .panic ∧ WsRead.readMessage s ≠ .panic ∧
    ∃ t, WsRead.session s = some t :=
  C14.no_panic s

/-- JSON+ reader: the Scanner split function always makes progress (no zero advance, no exhausted
fuel) on every input in every segmentation. -/
theorem jsonplus_never_stuck (chunks : List Bytes) :
    (Json.strip Json.jsonPlus chunks.flatten).2 ≠ .stuck ∧ (Json.stripChunks Json.jsonPlus chunks).2 ≠ .stuck :=
  C17.never_stuck chunks

/-- JOSE glue before the primitives run: the AEAD parameter checks reject wrong IV / tag / key lengths
instead of reaching the documented panics of `cipher.AEAD.Open` / `NewCBCDecrypter`; `KeyUnwrap`
rejects lengths that are not a positive multiple of 8. -/
theorem jose_prechecks_never_panic (e : Jose.Enc) (keyLen ivLen ctLen tagLen : Nat)
    (hk : if e.isGcm then True else keyLen % 2 = 0) :
    Jose.precheck e keyLen ivLen ctLen tagLen ≠ .panic :=
  C16.precheck_never_panics e keyLen ivLen ctLen tagLen hk

/-- … and behind a VALID tag: the CBC-HMAC `Open` of the library (tag check, block-length check, CBC, PKCS#7
unpadding) returns for every key, IV, ciphertext — the empty one included (defect F28, repaired) — tag and AAD,
whatever the block cipher and the MAC are. -/
theorem jose_cbc_open_never_panics (P : Jose.CbcPrims) (ek mk iv ct tag aad : Bytes) :
    Jose.cbcOpen P ek mk iv ct tag aad ≠ .panic :=
  C16.cbc_open_never_panics P ek mk iv ct tag aad

/-! ### (b) cost: AMF0 containers -/

/-- The decoder the source has NOW advances past a decoded child in constant time (fact regenerated
from amf0.go on every run; `false` = the old `Size()` re-walk, whose cost on `d` nested objects is
`d² + 2d + 1`, theorem `C05.nested_cost_quadratic`). -/
example : Gen.Amf0.childAdvanceIsConstant = true := by decide

/-- With that, decoding costs at most three units per byte of input: linear. -/
theorem amf0_cost_linear (bs : Bytes) : Amf0.cost bs ≤ 3 * bs.length := by
  unfold Amf0.cost
  cases h : Amf0.decode bs with
  | ok p =>
    obtain ⟨v, rest⟩ := p
    have h1 := Amf0.costV_le_size v
    obtain ⟨_, h3, _⟩ := C05.size_consumed bs v rest h
    have hc : (!Gen.Amf0.childAdvanceIsConstant) = false := by decide
    simp only [hc]
    omega
  | err k => simp
  | panic => simp

/-- The instrumented cost really distinguishes the two decoders: the same family that is linear now
was quadratic with the re-walk. -/
theorem amf0_cost_family (k : Bytes) (d : Nat) :
    Amf0.costV false (Amf0.nest k d .null) ≤ 3 * Amf0.size (Amf0.nest k d .null) ∧
    Amf0.costV true (Amf0.nest k d .null) = d * d + 2 * d + 1 :=
  ⟨Amf0.costV_le_size _, (C05.nested_cost_quadratic k d).2⟩

/-! ### (c) enum helpers are total over the whole range of their integer types -/

theorem enum_helpers_total_avc (v : Nat) :
    (Gen.Avc.NALUType_String v).isPanic = false ∧ (Gen.Avc.AVCLevel_String v).isPanic = false ∧
    (Gen.Avc.AVCProfile_String v).isPanic = false := C12.enum_helpers_total v

/-- AAC: `ToHz`, `ToProfile`, `ToObjectType` and the four `String` methods, all 256 values. -/
theorem enum_helpers_total_aac (v : UInt8) :
    Aac.toHz v ≠ .panic ∧ Aac.toProfile v ≠ .panic ∧ Aac.toObjectType v ≠ .panic ∧
    Gen.Aac.ObjectType_String v.toNat ≠ .panic ∧ Gen.Aac.Profile_String v.toNat ≠ .panic ∧
    Gen.Aac.SampleRateIndex_String v.toNat ≠ .panic ∧ Gen.Aac.Channels_String v.toNat ≠ .panic :=
  C11.enum_helpers_total v

/-- FLV: `ToHz`, `OpusToHz` and the eight `String` methods, all 256 values. -/
theorem enum_helpers_total_flv (v : UInt8) :
    (Flv.toHz v).isPanic = false ∧ (Flv.opusToHz v).isPanic = false ∧
    (Gen.Flv.TagType_String v.toNat).isPanic = false ∧
    (Gen.Flv.AudioChannels_String v.toNat).isPanic = false ∧
    (Gen.Flv.AudioSampleBits_String v.toNat).isPanic = false ∧
    (Gen.Flv.AudioSamplingRate_String v.toNat).isPanic = false ∧
    (Gen.Flv.AudioCodec_String v.toNat).isPanic = false ∧
    (Gen.Flv.VideoFrameType_String v.toNat).isPanic = false ∧
    (Gen.Flv.VideoCodec_String v.toNat).isPanic = false ∧
    (Gen.Flv.VideoFrameTrait_String v.toNat).isPanic = false :=
  C10.enum_helpers_total v

/-- AMF0 marker names. -/
theorem enum_helpers_total_amf0 (v : Nat) : (Gen.Amf0.marker_String v).isPanic = false := by
  simp only [Gen.Amf0.marker_String, Res.isPanic_ite, Res.isPanic_ok, ite_self]

end Oryx.Props.C07
