/-
  C18 — connection ids are unique and log lines whole under concurrency.
  Partial by nature: data races and the wholeness of one `log.Logger.Output` are runtime facts
  (assumptions: the Go memory model for sync/atomic; `log.Logger` writes one line per call under
  its mutex). The theorems carry the logic: uniqueness over every interleaving of any number of
  goroutines for the extracted allocation discipline, and the exact text of every line.
-/
import Oryx.Proofs.Logger
namespace Oryx.Props.C18
open Oryx Oryx.Logger
open Oryx.Gen.Logger (CidAlloc)

/-! ### gates -/

/-- The repair of F16 is in place: `WithContext` increments the counter with a sync/atomic add (or
under a mutex) and nothing else touches it. With `plainRMW` (the code as it was) this fails. -/
example : Gen.Logger.cidAlloc = .atomicAdd := rfl
example : Gen.Logger.cidAlloc ≠ .plainRMW := by decide
example : Gen.Logger.aliasCopiesSourceCid = true ∧ Gen.Logger.aliasFallsBackToWithContext = true := ⟨rfl, rfl⟩
example : Gen.Logger.cidInitial = 999 := rfl
/-- The repair of F20 is in place: a value that is not a context.Context reaches `format` itself. -/
example : Gen.Logger.fallbackPassesOriginalCtx = true := rfl
example : Gen.Logger.switchLevels =
    [("Info", "[info] ", false, 7), ("Trace", "[trace] ", true, 7), ("Warn", "[warn] ", true, 7),
     ("Error", "[error] ", true, 7)] := rfl

/-! ### ids -/

/-- Atomic disciplines: in every reachable state of every interleaving of any number of goroutines,
all ids handed out by `WithContext` are pairwise distinct, and every context made by `AliasContext`
from a source with an id carries exactly that id (and the source exists). -/
theorem ids_unique (m : CidAlloc) (hm : m ≠ .plainRMW) (s : St) (h : Reach m s) :
    s.ids.Nodup ∧ (∀ p ∈ s.aliases, p.2 = p.1 ∧ p.1 ∈ s.ids) :=
  have hI := allocInv_reach hm h
  ⟨hI.nodup, hI.aliases⟩

/-- The same for the discipline the current source has (gate above). -/
theorem ids_unique_current (s : St) (h : Reach Gen.Logger.cidAlloc s) :
    s.ids.Nodup ∧ (∀ p ∈ s.aliases, p.2 = p.1 ∧ p.1 ∈ s.ids) :=
  ids_unique _ (by decide) s h

/-- Every schedule (list of actions of arbitrary goroutines) that runs from the initial state ends
in a state with pairwise distinct ids — the executable form the harness replays. -/
theorem ids_unique_run (m : CidAlloc) (hm : m ≠ .plainRMW) (ops : List Op) (s : St)
    (h : run m St.init ops = some s) : s.ids.Nodup :=
  (ids_unique m hm s (reach_of_run ops _ _ .init h)).1

/-- ids are handed out in increasing order starting after the initial value (what the sequential
trace comparison of the harness checks). -/
theorem ids_bounded (m : CidAlloc) (hm : m ≠ .plainRMW) (s : St) (h : Reach m s) :
    ∀ id ∈ s.ids, id ≤ s.counter :=
  (allocInv_reach hm h).bounded

/-- F16 (repaired; regression witness). With the unsynchronised read-modify-write the code had,
two goroutines obtain the same id: both load 999, both store 1000 and hand out 1000. -/
theorem ids_dup_witness :
    ∃ s, run .plainRMW St.init [.load 1, .load 2, .store 1, .store 2] = some s ∧
      s.issued = [(2, 1000), (1, 1000)] ∧ ¬ s.ids.Nodup := by
  refine ⟨_, rfl, by decide, by decide⟩

/-- … and that schedule is a reachable state of the plainRMW system. -/
theorem ids_dup_reachable : ∃ s, Reach .plainRMW s ∧ ¬ s.ids.Nodup := by
  obtain ⟨s, hr, _, hn⟩ := ids_dup_witness
  exact ⟨s, reach_of_run _ _ _ .init hr, hn⟩

/-! ### lines -/

/-- The text the application supplies, as it reaches `log.Logger` when nothing is prepended. -/
def userText : Call → List Char
  | .println ops => sprintln ops
  | .printf msg => ensureNl msg

/-- Parsing the prefix of any line gives back exactly the id of the context that was passed:
`[pid][cid]` for an id-carrying object and for a context.Context with an id, just `[pid]` for a nil
context — for every level, both Println and Printf, every pid, every id (negative too), every
message. For the two kinds without a prefix (context without id, other values) the line carries no
prefix, provided the message itself does not start with `[`. -/
theorem prefix_parse (lvl : Level) (ts : List Char) (hts : ts.length = 26) (pid : Nat) (ctx : Ctx) (call : Call)
    (hmsg : ctx.expected pid = .none → (userText call).head? ≠ some '[') :
    parseCid (formatLine lvl ts pid ctx call) = ctx.expected pid := by
  rw [formatLine, parseCid_line lvl ts hts]
  by_cases hn : ctx.expected pid = .none
  · have hb : body pid ctx call = userText call := by
      obtain ⟨_, hf, hl⟩ | ⟨h, _⟩ := prefix_cases pid ctx
      · cases call <;> simp only [body, userText, hl, hf, List.nil_append]
      · exact absurd hn h
    rw [hb, hn]
    exact parseBody_pre .none nofun _ (hmsg hn)
  · obtain ⟨c, rest, hb, hc⟩ := body_prefixed pid ctx call hn
    rw [hb]
    exact parseBody_pre _ (by cases ctx <;> nofun) _ (by rcases hc with rfl | rfl <;> simp)

/-- F20 (repaired; regression witness). On go1.7+ `contextFormat` shadowed `ctx`, so `format` saw a
nil context for every value that is not a context.Context: the example of the package's own
documentation, `Trace.Println(cidContext(100), "The log text.")`, was logged with `[pid]` only —
the connection id of the object was lost. -/
theorem f20_witness_unrepaired :
    printlnPrefixSeen 4242 Ctx.nil = some "[4242] ".toList ∧
    parseBody "[4242]  The log text.\n".toList = .pid 4242 ∧
    (Ctx.obj 100).expected 4242 = .pidCid 4242 100 := by
  repeat rw [String.toList_ofList]
  decide +kernel

/-- … with the repair the same call carries the object's id. -/
theorem f20_repaired :
    parseCid (formatLine .trace "2026/09/29 12:34:56.000123".toList 4242 (.obj 100) (.println ["The log text.".toList]))
      = .pidCid 4242 100 := by
  repeat rw [String.toList_ofList]
  decide +kernel

/-- Every log call produces exactly one complete line: text without a newline followed by one
newline — for every level, context kind, Println/Printf and every message without a newline. -/
theorem one_line (lvl : Level) (ts : List Char) (hts : '\n' ∉ ts) (pid : Nat) (ctx : Ctx) (call : Call)
    (h : call.NoNl) :
    ∃ pre, formatLine lvl ts pid ctx call = pre ++ ['\n'] ∧ '\n' ∉ pre := by
  obtain ⟨pre, hp, hn⟩ := body_one_line pid ctx call h
  refine ⟨lvl.label ++ ts ++ ' ' :: pre, by simp [formatLine, hp], ?_⟩
  simp only [List.mem_append, List.mem_cons, not_or]
  exact ⟨⟨label_noNl lvl, hts⟩, by decide, hn⟩

/-- Under the `log.Logger` assumption (each call appends its whole line in one write), whatever the
interleaving of the calls of any number of goroutines, a reader that splits the writer's bytes at
newlines recovers exactly the lines of the calls, in the order the writes happened: no line is
interleaved with another. -/
theorem writer_sees_whole_lines (lines : List (List Char)) (h : ∀ l ∈ lines, '\n' ∉ l) :
    splitNl [] (lines.map (· ++ ['\n'])).flatten = lines := by
  induction lines with
  | nil => rfl
  | cons l ls ih =>
    have := splitNl_line [] l (ls.map (· ++ ['\n'])).flatten (h l (by simp))
    simp only [List.map_cons, List.flatten_cons, List.append_assoc, List.singleton_append, this,
      List.reverse_nil, List.nil_append]
    rw [ih (fun l hl => h l (List.mem_cons_of_mem _ hl))]

/-- Levels: after `Switch(w)` trace, warn and error lines go to `w`; info goes to a discard writer
(as the source has it), so an info call emits nothing to `w`. -/
theorem emit_levels (ts : List Char) (pid : Nat) (ctx : Ctx) (call : Call) :
    emit .info ts pid ctx call = [] ∧
    ∀ l, l ≠ .info → emit l ts pid ctx call = formatLine l ts pid ctx call := by
  refine ⟨rfl, fun l hl => ?_⟩
  cases l with
  | info => exact absurd rfl hl
  | _ => rfl

/-! ### non-vacuity -/

def exTs : List Char := "2026/09/29 12:34:56.000123".toList

example : exTs.length = 26 ∧ '\n' ∉ exTs := by unfold exTs; rw [String.toList_ofList]; decide +kernel
example : (Call.println ["hello".toList, "world".toList]).NoNl := by
  repeat rw [String.toList_ofList]
  intro o ho; simp at ho; rcases ho with rfl | rfl <;> decide
example : formatLine .trace exTs 4242 (.ctxWith 1000) (.println ["hello".toList, "world".toList])
    = "[trace] 2026/09/29 12:34:56.000123 [4242][1000] hello world\n".toList := by
  unfold exTs; repeat rw [String.toList_ofList]
  decide +kernel
example : formatLine .warn exTs 4242 .nil (.println ["hi".toList])
    = "[warn] 2026/09/29 12:34:56.000123 [4242]  hi\n".toList := by
  unfold exTs; repeat rw [String.toList_ofList]
  decide +kernel
example : formatLine .error exTs 4242 (.obj (-7)) (.printf "x=1".toList)
    = "[error] 2026/09/29 12:34:56.000123 [4242][-7] x=1\n".toList := by
  unfold exTs; repeat rw [String.toList_ofList]
  decide +kernel
example : formatLine .trace exTs 4242 .ctxWithout (.printf "plain".toList)
    = "[trace] 2026/09/29 12:34:56.000123 plain\n".toList := by
  unfold exTs; repeat rw [String.toList_ofList]
  decide +kernel
example : parseCid (formatLine .error exTs 4242 (.obj (-7)) (.printf "[x]".toList)) = .pidCid 4242 (-7) := by
  unfold exTs; repeat rw [String.toList_ofList]
  decide +kernel
example : ∃ s, run .atomicAdd St.init [.add 1, .add 2, .alias 3 1000, .add 1] = some s ∧ s.ids = [1002, 1001, 1000] ∧
    s.aliases = [(1000, 1000)] := ⟨_, rfl, by decide, by decide⟩
/-- the message hypothesis of `prefix_parse` for the prefix-less kinds is necessary -/
example : parseCid (formatLine .trace exTs 4242 .ctxWithout (.printf "[1][2] forged".toList)) = .pidCid 1 2 := by
  unfold exTs; repeat rw [String.toList_ofList]
  decide +kernel

end Oryx.Props.C18
