/-
  C08 — I/O failures surface as errors that keep their root cause.
  Only property statements, their short proofs from the helper lemmas, and non-vacuity examples.

  Models: Oryx/Model/Errors.lean (errors/errors.go: error values = towers of withMessage / withStack layers over
  opaque roots), Oryx/Model/IoFault.lean (the RTMP reader / handshake / chunk writer and the FLV demuxer / muxer
  over a transport that ENDS — root 0 = io.EOF — or FAILS — any other root — after delivering / accepting
  `k` bytes; every wrap site of rtmp.go / flv.go is a layer, so a swallowed or replaced error would change
  `cause` and the theorems below would not be provable).

  Transport model (recorded assumptions, exercised by `corr C08` at every offset):
    * reading: the reader sees the first `k` bytes of the peer's stream and then the transport's error `t` on
      every further read; `bufio.Reader` + `io.ReadFull`/`binary.Read`/`io.CopyN` make the result independent of
      how those `k` bytes are segmented into transport reads ("error at read call i" = "after the bytes of the
      first i calls");
    * writing: the transport accepts `K` bytes in total (the failing call may accept a part) and then fails with
      `t`; `bufio.Writer` is a parameter `pol` (any buffer size / flushing strategy), `Flush` pushes everything,
      the first failed transport write is sticky ("error at write call i" = `K` = the bytes of the first i calls).
-/
import Oryx.Proofs.IoFault.Write
import Oryx.Props.C09
import Oryx.Proofs.Expect
namespace Oryx.Props.C08
open Oryx Oryx.Errors Oryx.IoFault Oryx.Rtmp

/-! ## 1. the errors package -/

/-- A tower of constructor calls over a non-nil error keeps that error's cause. -/
theorem cause_tower (ls : List Layer) (e : Err) : causeO (build ls (some e)) = some e.cause := by
  obtain ⟨e', h, hc, _⟩ := build_some ls e
  rw [h, causeO, hc]

/-- `errors.Cause` recovers the root through ANY nesting of `WithMessage / WithStack / Wrap / Wrapf`. -/
theorem cause_any_nesting (ls : List Layer) (r : Nat) :
    causeO (build ls (some (.root r))) = some (.root r) :=
  cause_tower ls (.root r)

/-- `Error()` of a tower = the layers' messages, outer to inner, then the root's own text, joined by `": "`
(a bare `WithStack` contributes no message). -/
theorem message_chain (ls : List Layer) (r : Nat) :
    (build ls (some (.root r))).map Err.message =
      some (joinColon ((ls.map Layer.msg).flatten ++ [Err.rootText r])) := by
  obtain ⟨e', h, hc, hm⟩ := build_some ls (.root r)
  rw [h, Option.map_some, message_eq_chain e', hm, hc]
  simp [Err.messages, Err.cause, Err.message]

/-- Same for every error value (whatever built it). -/
theorem message_chain_err (e : Err) : e.message = joinColon (e.messages ++ [e.cause.message]) :=
  message_eq_chain e

/-- Every constructor, and every tower of them, maps nil to nil. -/
theorem wrap_nil :
    Errors.withStack none = none ∧ (∀ m, Errors.withMessage m none = none) ∧ (∀ m, wrap m none = none) ∧
    (∀ m, wrapf m none = none) ∧ causeO none = none ∧ ∀ ls, build ls none = none :=
  ⟨rfl, fun _ => rfl, fun _ => rfl, fun _ => rfl, rfl, build_none⟩

/-- … and a non-nil error to a non-nil error. -/
theorem wrap_some (ls : List Layer) (e : Err) : (build ls (some e)).isSome = true := by
  obtain ⟨e', h, _⟩ := build_some ls e
  simp [h]

theorem cause_idempotent (e : Err) : e.cause.cause = e.cause := cause_cause e

/-- The cause is always a root (an error without a `Cause()` method). -/
theorem cause_root (e : Err) : ∃ r, e.cause = .root r := cause_is_root e

/-! ## 2. the generic cut lemma (what every reader theorem below is built from) -/

/-- Primitives have the cut property: `io.ReadFull` (EOF / unexpected EOF / the transport's error) and
`io.CopyN` (exactly the transport's error). -/
theorem cut_primitives (n : Nat) : Cut (readFullE n) ∧ CutN (copyNE n) := ⟨cut_readFullE n, cutN_copyNE n⟩

/-- It is closed under sequencing and under every wrap that keeps the cause. -/
theorem cut_closed {E : EndRel} {α β : Type} (p : SP α) (f : α → SP β) (hp : CutG E p) (hf : ∀ a, CutG E (f a)) (msg : String) :
    CutG E (p >>= f) ∧ CutG E (p.wrap msg) ∧ CutG E (p.withMessage msg) :=
  ⟨hp.bind hf, hp.wrap msg, hp.withMessage msg⟩

/-- Prefix-monotone: a reader with the cut property that succeeded on a stream returns the same value on every
prefix that contains what it consumed, for every transport error; on a shorter prefix it returns an error whose
cause is the transport's — never `ok` with a different value. -/
theorem cut_meaning {α : Type} {p : SP α} (hp : Cut p) {t0 : Nat} {bs : Bytes} {a : α} {rest : Bytes}
    (h : p t0 bs = .ok (a, rest)) (t k : Nat) :
    (bs.length - rest.length ≤ k → p t (bs.take k) = .ok (a, rest.take (k - (bs.length - rest.length)))) ∧
    (k < bs.length - rest.length → ∃ e, p t (bs.take k) = .err e ∧
      (t = 0 → e.cause = .root 0 ∨ e.cause = .root 1) ∧ (t ≠ 0 → e.cause = .root t)) := by
  refine ⟨(hp.take h t k).1, fun hlt => ?_⟩
  obtain ⟨e, he, hc⟩ := (hp.take h t k).2 hlt
  exact ⟨e, he, hc.cut, hc.inject⟩

/-- Every reader of the RTMP path, the handshake and the FLV demuxer has the cut property. -/
theorem readers_cut (st : Reader) (c : ChunkStream) (fmt ic size : Nat) :
    Cut readBasicHeaderE ∧ Cut (readMessageHeaderE c fmt) ∧ Cut (readMessagePayloadE ic c) ∧ Cut (readChunkE st) ∧
    Cut (readMessageE st) ∧ Cut (expectMessageE st) ∧ CutN hsReadE ∧
    CutN flvReadHeaderE ∧ CutN flvReadTagHeaderE ∧ CutN (flvReadTagE size) ∧ CutN flvReadTagFullE :=
  ⟨lifts_readBasicHeaderE.cut, (lifts_readMessageHeaderE c fmt).cut, (lifts_readMessagePayloadE ic c).cut,
   (lifts_readChunkE st).cut, (lifts_readMessageE st).cut, cut_expectMessageE st, cutN_hsReadE, lifts_flvReadHeaderE.cut,
   lifts_flvReadTagHeaderE.cut, (lifts_flvReadTagE size).cut, lifts_flvReadTagFullE.cut⟩

/-- With the layers forgotten and a transport that ends, the error-carrying readers ARE the class-only models of
C01 and C09 (so C01's round trip and C09's demuxer theorems speak about them). -/
theorem erasure (st : Reader) (bs : Bytes) :
    (readMessageE st 0 bs).erase = readMessage st bs ∧ (flvReadTagFullE 0 bs).erase = Flv.readTagFull bs ∧
    (flvReadHeaderE 0 bs).erase = Flv.readHeader bs ∧
    (match flvDemuxE 0 bs with
     | .ok (h, tags, st) => Res.ok (h, tags, st.erase)
     | .err e => .err e.cls
     | .panic => .panic) = Flv.demux bs :=
  ⟨(lifts_readMessageE st).erase bs, lifts_flvReadTagFullE.erase bs, lifts_flvReadHeaderE.erase bs, erase_flvDemuxE bs⟩

/-- The class-only primitives of the stream model (`Oryx.readFull`, `Oryx.copyN`, `Oryx.Flv.copyN`) are the
`t = 0` (the stream ends) instance of the transport-parametrised primitives, with the error value forgotten. -/
theorem primitives_instance (n : Nat) (bs : Bytes) :
    (readFullE n 0 bs).erase = readFull n bs ∧ (copyNE n 0 bs).erase = copyN n bs ∧
    (copyNE n 0 bs).erase = Flv.copyN n bs :=
  ⟨(lifts_readFullE n).erase bs, (lifts_copyNE n).erase bs, (lifts_copyNE_flv n).erase bs⟩

/-! ## 3. RTMP: a stream that ends or fails at any byte -/

/-- The domain, as in C01: chunk stream 2..63, timestamp < 2^31, payload 1..2^24−1 bytes, well-formed bodies
of the control messages the reader decodes itself, Set Chunk Size ≥ 1 (any position, any number). -/
def MsgOK (m : Msg) : Prop := m.WF ∧ m.ChunkSizeOK

/-- The result of reading a session from the first `k` bytes: the messages and how the loop stopped. -/
def Outcome (t : Nat) (r : List Msg × StopE) (expected : List Msg) (boundary : Prop) : Prop :=
  ∃ e, r = (expected, .err e) ∧
    (t = 0 → e.cause = .root 0 ∨ e.cause = .root 1) ∧ (t ≠ 0 → e.cause = .root t) ∧ (boundary → e.cause = .root t)

/-- **cut_prefix_rtmp / inject_read** in one statement. For every session `msgs` of the domain written at any
chunk size `c ≥ 1` (`W = writeAll c msgs`), every reader at that chunk size without a partial message, every
transport error `t` and every offset `k`: reading from a transport that delivers `take k W` and then reports `t`
returns exactly the messages wholly contained in the first `k` bytes — `wholeMsgs c k msgs`, a prefix
`msgs.take j` of the session, each with identical type, stream id, timestamp and payload — and then a non-nil
error whose root cause is
  * io.EOF or io.ErrUnexpectedEOF if the stream ended (`t = 0`), io.EOF when the cut is on a message boundary,
  * exactly the transport's error if it failed (`t ≠ 0`).
Never a truncated, duplicated or fabricated message; never an incomplete message with a nil error; no panic. -/
theorem cut_session (msgs : List Msg) (hall : ∀ m ∈ msgs, MsgOK m) (c : Nat) (hc : 1 ≤ c)
    (st : Reader) (hic : st.inChunk = c) (hcl : Clean st) :
    ∃ W, writeAll c msgs = .ok W ∧ ∀ (t k fuel : Nat), (W.take k).length < fuel →
      Outcome t (readSessionE fuel st t (W.take k)) ((wholeMsgs c k msgs).map received)
        ((∃ W', writeAll c (wholeMsgs c k msgs) = .ok W' ∧ W'.length = k) ∨ W.length ≤ k) ∧
      wholeMsgs c k msgs = msgs.take (wholeMsgs c k msgs).length ∧
      ((wholeMsgs c k msgs).map received).map Msg.view = (wholeMsgs c k msgs).map Msg.view ∧
      (W.length ≤ k → wholeMsgs c k msgs = msgs) := by
  obtain ⟨W, hw⟩ := writeAll_ok msgs hall c hc
  refine ⟨W, hw, fun t k fuel hf => ⟨?_, wholeMsgs_eq_take c k msgs, ?_, wholeMsgs_all msgs c k W hw⟩⟩
  · obtain ⟨e, he, hce, hb⟩ := session_cut msgs (fun m hm => (hall m hm).1) c st W hic hcl hw t k fuel hf
    exact ⟨e, he, hce.cut, hce.inject, hb⟩
  · simp [List.map_map, Function.comp_def, view_received]

/-- `cut_prefix_rtmp`: the stream ENDS after `k` bytes (a fresh reader at the default chunk size). -/
theorem cut_prefix_rtmp (msgs : List Msg) (hall : ∀ m ∈ msgs, MsgOK m) (k : Nat) :
    ∃ W, writeAll 128 msgs = .ok W ∧ ∃ e,
      readSession 128 0 (W.take k) = ((wholeMsgs 128 k msgs).map received, .err e) ∧
      (e.cause = .root 0 ∨ e.cause = .root 1) ∧
      (((∃ W', writeAll 128 (wholeMsgs 128 k msgs) = .ok W' ∧ W'.length = k) ∨ W.length ≤ k) → e.cause = .root 0) ∧
      wholeMsgs 128 k msgs <+: msgs := by
  obtain ⟨W, hw, h⟩ := cut_session msgs hall 128 (by decide) {} rfl (clean_fresh _)
  obtain ⟨⟨e, he, h0, _, hb⟩, _⟩ := h 0 k _ (Nat.lt_succ_self _)
  exact ⟨W, hw, e, he, h0 rfl, hb, wholeMsgs_prefix _ _ _⟩

/-- `inject_read`: the transport FAILS with error `t ≠ 0` after delivering `k` bytes — at any read position. The
error surfaces with exactly that cause, and the messages before it are exactly the complete ones. -/
theorem inject_read (msgs : List Msg) (hall : ∀ m ∈ msgs, MsgOK m) (t : Nat) (ht : t ≠ 0) (k : Nat) :
    ∃ W, writeAll 128 msgs = .ok W ∧ ∃ e,
      readSession 128 t (W.take k) = ((wholeMsgs 128 k msgs).map received, .err e) ∧ e.cause = .root t ∧
      wholeMsgs 128 k msgs <+: msgs := by
  obtain ⟨W, hw, h⟩ := cut_session msgs hall 128 (by decide) {} rfl (clean_fresh _)
  obtain ⟨⟨e, he, _, hi, _⟩, _⟩ := h t k _ (Nat.lt_succ_self _)
  exact ⟨W, hw, e, he, hi ht, wholeMsgs_prefix _ _ _⟩

/-- `ExpectMessage` / `ExpectPacket` add a layer and keep the cause: cut inside the awaited message. -/
theorem expect_cut (c : Nat) (hc : 1 ≤ c) (m : Msg) (hm : m.WF) (st : Reader) (hic : st.inChunk = c) (hcl : Clean st)
    (W : Bytes) (hw : writeMessage c m = .ok W) (t k : Nat) (hk : k < W.length) :
    ∃ e, expectMessageE st t (W.take k) = .err (.withMessage "read message" e) ∧
      (t = 0 → e.cause = .root 0 ∨ e.cause = .root 1) ∧ (t ≠ 0 → e.cause = .root t) := by
  obtain ⟨e, he, hce⟩ := message_cut c m hm st hic hcl W hw t k hk
  exact ⟨e, SP.withMessage_err he, hce.cut, hce.inject⟩

section
open Oryx.Model.Expect
/-- the library's loop under the fact the translator reads from rtmp.go on every run -/
def libExpect {ε α : Type} := @expectLoop ε α Oryx.Gen.Rtmp.expectReturnsFirstError

/-- gate: in ExpectPacket and ExpectMessage the branch for a failed `ReadMessage` returns at once -/
theorem expect_fact : Oryx.Gen.Rtmp.expectReturnsFirstError = true := by decide

/-- **A failed read ends `ExpectMessage` / `ExpectPacket` with that failure**, whatever the error says about itself
(temporary, timeout) and whatever the transport would deliver afterwards: for every sequence of read results in which
the reads before the first failure delivered only messages the caller does not wait for. -/
theorem expect_first_error {ε α : Type} (want : α → Bool) (pre : List α) (e : ε) (post : List (Except ε α))
    (hpre : ∀ m ∈ pre, want m = false) :
    libExpect want (pre.map .ok ++ .error e :: post) = .failed e := by
  rw [libExpect, expectLoop_skip _ _ _ _ hpre, expect_fact]; rfl

/-- ... and the first awaited message is returned when no read before it failed. -/
theorem expect_first_wanted {ε α : Type} (want : α → Bool) (pre : List α) (m : α) (post : List (Except ε α))
    (hpre : ∀ x ∈ pre, want x = false) (hm : want m = true) :
    libExpect want (pre.map .ok ++ .ok m :: post) = (.got m : Out ε α) := by
  rw [libExpect, expectLoop_skip _ _ _ _ hpre, expectLoop, hm]; rfl

/-- the retrying variant swallows the failure of the transport: the operation in progress returns no error -/
theorem expect_retry_variant_swallows :
    expectLoop false (fun _ => true) [(.error 1 : Except Nat Nat), .ok 2] = .got 2 ∧
    expectLoop true (fun _ => true) [(.error 1 : Except Nat Nat), .ok 2] = .failed 1 := by decide

/-- non-vacuity: two skipped messages, a failure, more results -/
example : libExpect (fun (m : Nat) => m == 9) ([1, 2].map .ok ++ (.error "timeout" : Except String Nat) :: [.ok 9]) = .failed "timeout" := by
  decide
end

/-- The same fact in the class-only model C01 is stated about: `readMessage` on a strict prefix of a written
message is `err eof` or `err ueof` — not `ok`, not another error, not a panic. -/
theorem cut_message_class (c : Nat) (hc : 1 ≤ c) (m : Msg) (hm : m.WF) (st : Reader) (hic : st.inChunk = c) (hcl : Clean st)
    (W : Bytes) (hw : writeMessage c m = .ok W) (k : Nat) (hk : k < W.length) :
    readMessage st (W.take k) = .err .eof ∨ readMessage st (W.take k) = .err .ueof := by
  obtain ⟨e, he, hce⟩ := message_cut c m hm st hic hcl W hw 0 k hk
  rw [← (lifts_readMessageE st).erase, he]
  exact (hce.cut rfl).imp (fun h => congrArg Res.err (cls_of_cause h)) fun h => congrArg Res.err (cls_of_cause h)

/-- **Where the cut falls matters** (the property's own example): right after the basic header the reader polls
the transport afresh — clean io.EOF; anywhere inside the 11-byte message header — io.ErrUnexpectedEOF; a failing
transport's error comes through in both places. -/
theorem cut_header_boundary (c : Nat) (m : Msg) (hm : m.WF) (st : Reader) (hcl : Clean st) (W : Bytes)
    (hw : writeMessage c m = .ok W) (k : Nat) (hk1 : 1 ≤ k) (hk : k ≤ 11) (t : Nat) :
    ∃ e, readMessageE st t (W.take k) = .err e ∧ e.cause = .root (if t = 0 then (if k = 1 then 0 else 1) else t) := by
  obtain ⟨T, rfl, hT⟩ := writeMessage_head hm hw
  cases k with
  | zero => exact absurd hk1 (Nat.not_succ_le_zero 0)
  | succ k' =>
    have hlen : (T.take k').length = k' := List.length_take_of_le (Nat.le_trans (Nat.le_of_succ_le hk) hT)
    obtain ⟨e, he, hc⟩ := header_boundary st m.hdr.cid hm.cid_lo hm.cid_hi (hcl.awaits m).2.1 (T.take k')
      (hlen.symm ▸ Nat.lt_of_succ_le hk) t
    refine ⟨e, he, ?_⟩
    rw [hc, hlen]
    simp only [shortRoot, Nat.add_eq_right]

/-- Handshake: the three `io.CopyN` reads (`Wrap`ped) on the first `k` bytes of the peer's 3073: complete iff
`k ≥ 3073`, else the read in progress returns exactly the transport's error (io.EOF for a cut). -/
theorem handshake_cut (t : Nat) (c0 c1 c2 rest : Bytes) (h0 : c0.length = 1) (h1 : c1.length = 1536) (h2 : c2.length = 1536) (k : Nat) :
    (3073 ≤ k → hsReadE t ((c0 ++ (c1 ++ (c2 ++ rest))).take k) = .ok ((c0, c1, c2), rest.take (k - 3073))) ∧
    (k < 3073 → ∃ e, hsReadE t ((c0 ++ (c1 ++ (c2 ++ rest))).take k) = .err e ∧ e.cause = .root t) := by
  have := cutN_hsReadE.append (W := c0 ++ (c1 ++ c2)) (by simpa using hsReadE_ok 0 c0 c1 c2 rest h0 h1 h2) t k
  simp only [List.append_assoc, List.length_append, h0, h1, h2] at this
  exact this

/-- A whole connection as the reader sees it — the peer's 3073 handshake bytes, then its chunk stream: cut or
failing at any offset `k`, either a handshake read returns the transport's error, or the handshake completes and
the session reader sees exactly `take (k − 3073)` of the chunk stream, to which `cut_session` applies. -/
theorem connection_cut (msgs : List Msg) (hall : ∀ m ∈ msgs, MsgOK m) (t : Nat) (c0 c1 c2 : Bytes)
    (h0 : c0.length = 1) (h1 : c1.length = 1536) (h2 : c2.length = 1536) (k : Nat) :
    ∃ W, writeAll 128 msgs = .ok W ∧
      (k < 3073 → ∃ e, hsReadE t ((c0 ++ (c1 ++ (c2 ++ W))).take k) = .err e ∧ e.cause = .root t) ∧
      (3073 ≤ k → ∃ rest, hsReadE t ((c0 ++ (c1 ++ (c2 ++ W))).take k) = .ok ((c0, c1, c2), rest) ∧
        Outcome t (readSession 128 t rest) ((wholeMsgs 128 (k - 3073) msgs).map received)
          ((∃ W', writeAll 128 (wholeMsgs 128 (k - 3073) msgs) = .ok W' ∧ W'.length = k - 3073) ∨ W.length ≤ k - 3073)) := by
  obtain ⟨W, hw, h⟩ := cut_session msgs hall 128 (by decide) {} rfl (clean_fresh _)
  refine ⟨W, hw, (handshake_cut t c0 c1 c2 W h0 h1 h2 k).2, fun hk => ⟨_, (handshake_cut t c0 c1 c2 W h0 h1 h2 k).1 hk, ?_⟩⟩
  exact (h t (k - 3073) _ (Nat.lt_succ_self _)).1

/-- Handshake writes over a transport that accepts `K` bytes: the bytes delivered are the first `K` of the 3073;
all three steps return nil iff `K ≥ 3073`, else the step in progress returns an error with the transport's cause. -/
theorem handshake_write_fault (t K : Nat) (c0 c1 c2 : Bytes) :
    (hsWriteW t { budget := K } c0 c1 c2).2.2.out = (c0 ++ (c1 ++ c2)).take K ∧
    ((c0 ++ (c1 ++ c2)).length ≤ K → (hsWriteW t { budget := K } c0 c1 c2).2.1 = none ∧ (hsWriteW t { budget := K } c0 c1 c2).1 = 3) ∧
    (K < (c0 ++ (c1 ++ c2)).length → ∃ e, (hsWriteW t { budget := K } c0 c1 c2).2.1 = some e ∧ e.cause = .root t) := by
  obtain ⟨hs, hn⟩ := hsWritesW_sent (K := K) t [("write c0s0", c0), ("write c0s1", c1), ("write c2s2", c2)] [] _ (.fresh K) rfl
  simp only [List.map_cons, List.map_nil, List.flatten_cons, List.flatten_nil, List.append_nil, List.nil_append] at hs
  unfold hsWriteW
  exact ⟨hs.out, fun hk => ⟨hs.nil_of_le hk, hn (hs.nil_of_le hk)⟩, hs.err_of_lt⟩

/-! ## 4. FLV -/

/-- `cut_prefix_flv` — re-export of C09's `demux_truncated` (class-only model): truncation at any offset gives
exactly the whole tags, then io.EOF. -/
theorem cut_prefix_flv (hasVideo hasAudio : Bool) (tags : List Flv.Tag) (h : ∀ t ∈ tags, t.WF) (k : Nat) :
    Flv.demux ((Flv.mux hasVideo hasAudio tags).take k) =
      (if k < 13 then .err .eof
       else .ok ({ version := 1, hasVideo := hasVideo, hasAudio := hasAudio }, Flv.wholeTags (k - 13) tags, .err .eof)) ∧
    Flv.wholeTags (k - 13) tags <+: tags :=
  Oryx.Props.C09.demux_truncated hasVideo hasAudio tags h k

/-- … and for every transport error `t` (cut: `t = 0` → io.EOF; injected: that error), with the error VALUE:
flv.go returns it unwrapped, so the cause is the transport's error itself. -/
theorem cut_inject_flv (t : Nat) (hv ha : Bool) (tags : List Flv.Tag) (h : ∀ tg ∈ tags, tg.WF) (k : Nat) :
    (k < 13 → ∃ e, flvDemuxE t ((Flv.mux hv ha tags).take k) = .err e ∧ e.cause = .root t) ∧
    (13 ≤ k → ∃ e, flvDemuxE t ((Flv.mux hv ha tags).take k) =
        .ok ({ version := 1, hasVideo := hv, hasAudio := ha }, Flv.wholeTags (k - 13) tags, .err e) ∧ e.cause = .root t) ∧
    Flv.wholeTags (k - 13) tags <+: tags :=
  ⟨(flv_demux_cut t hv ha tags h k).1, (flv_demux_cut t hv ha tags h k).2, Flv.wholeTags_prefix _ _⟩

/-! ## 5. writers over a transport that fails -/

/-- **write_fault** (RTMP). The transport accepts `K` bytes and then fails with `t`; bufio flushes by ANY policy
`pol`. Writing the session message by message until the first error:
  * the bytes delivered are exactly the first `K` bytes of the session's bytes;
  * the number `n` of `WriteMessage` calls that returned nil = the number of messages wholly delivered;
  * if `K` is less than the session's length the call in progress returns an error whose cause is `t`;
    otherwise no call fails and `n` = all;
  * hence (by the cut theorem) the peer, reading what was delivered from a transport that then ends or fails with
    any `t'`, gets exactly the `n` acknowledged messages, then an error with that transport's cause. -/
theorem write_fault (msgs : List Msg) (hall : ∀ m ∈ msgs, MsgOK m) (c : Nat) (hc : 1 ≤ c) (t K : Nat) (pol : Pol)
    (st : Reader) (hic : st.inChunk = c) (hcl : Clean st) :
    ∃ W n e w', writeAll c msgs = .ok W ∧ writeSessionW t pol c { budget := K } msgs = .ok (n, e, w') ∧
      w'.out = W.take K ∧ n = (wholeMsgs c K msgs).length ∧
      (K < W.length → ∃ e', e = some e' ∧ e'.cause = .root t) ∧
      (W.length ≤ K → e = none ∧ n = msgs.length) ∧
      ∀ (t' fuel : Nat), w'.out.length < fuel →
        Outcome t' (readSessionE fuel st t' w'.out) ((msgs.take n).map received)
          ((∃ W', writeAll c (msgs.take n) = .ok W' ∧ W'.length = K) ∨ W.length ≤ K) := by
  obtain ⟨W, hw, hcut⟩ := cut_session msgs hall c hc st hic hcl
  obtain ⟨e, w', hs, hsent⟩ := writeSessionW_sent (K := K) t pol msgs c W [] _ hw (.fresh K) rfl
  rw [List.nil_append] at hsent
  refine ⟨W, _, e, w', hw, hs, hsent.out, rfl, hsent.err_of_lt, fun hk => ⟨hsent.nil_of_le hk, ?_⟩, fun t' fuel hf => ?_⟩
  · exact congrArg List.length (wholeMsgs_all msgs c K W hw hk)
  · rw [hsent.out] at hf ⊢
    rw [← wholeMsgs_eq_take]
    exact (hcut t' K fuel hf).1

/-- **write_fault** (FLV). `WriteHeader` + `WriteTag`s straight onto a transport that accepts `K` bytes: bytes
delivered = the first `K` bytes of the file; the header call succeeded iff `K ≥ 13`; tags acknowledged = tags wholly
delivered; the call in progress returns the transport's error itself (unwrapped); and the demuxer on the delivered
bytes returns exactly the acknowledged tags (by `cut_inject_flv`). -/
theorem write_fault_flv (t K : Nat) (hv ha : Bool) (tags : List Flv.Tag) (h : ∀ tg ∈ tags, tg.WF) :
    (flvMuxW t { budget := K } hv ha tags).2.2.out = (Flv.mux hv ha tags).take K ∧
    (flvMuxW t { budget := K } hv ha tags).1 = (if K < 13 then none else some (Flv.wholeTags (K - 13) tags).length) ∧
    ((Flv.mux hv ha tags).length ≤ K → (flvMuxW t { budget := K } hv ha tags).2.1 = none) ∧
    (K < (Flv.mux hv ha tags).length → (flvMuxW t { budget := K } hv ha tags).2.1 = some (.root t)) ∧
    (13 ≤ K → ∀ t', ∃ e, flvDemuxE t' (flvMuxW t { budget := K } hv ha tags).2.2.out =
        .ok ({ version := 1, hasVideo := hv, hasAudio := ha }, Flv.wholeTags (K - 13) tags, .err e) ∧ e.cause = .root t') := by
  obtain ⟨hs, hn⟩ := flvMuxW_sent t K hv ha tags
  refine ⟨hs.out, hn, hs.nil_of_le, fun hk => by obtain ⟨e, he, rfl⟩ := hs.err_of_lt hk; exact he, fun hk t' => ?_⟩
  rw [hs.out]
  exact (flv_demux_cut t' hv ha tags h K).2 hk

/-- The sticky error: once the transport has failed, every later `Write` and `Flush` of bufio returns that same
error and nothing more is delivered. -/
theorem sticky (t : Nat) (pol : Pol) (w : BW) (e : Err) (h : w.err = some e) (p : Bytes) :
    w.write t pol p = (w, some e) ∧ w.flush t = (w, some e) := by
  simp [BW.write, BW.flush, h]

/-! ## 6. the whole property -/

/-- C08 over the models: (1) the errors algebra; (2) RTMP reads under a cut or an injected error; (3) handshake
reads; (4) FLV reads; (5) RTMP and FLV writes over a failing transport, with what the peer then receives. -/
def C08_statement : Prop :=
  -- (1) errors package: cause through any nesting, message chain, nil stays nil
  (∀ (ls : List Layer) (r : Nat),
      causeO (build ls (some (.root r))) = some (.root r) ∧
      (build ls (some (.root r))).map Err.message = some (joinColon ((ls.map Layer.msg).flatten ++ [Err.rootText r])) ∧
      build ls none = none) ∧
  -- (2) RTMP sessions: every cut offset / injected error at every read offset
  (∀ (msgs : List Msg), (∀ m ∈ msgs, MsgOK m) → ∀ (c : Nat), 1 ≤ c → ∀ (st : Reader), st.inChunk = c → Clean st →
    ∃ W, writeAll c msgs = .ok W ∧ ∀ (t k fuel : Nat), (W.take k).length < fuel →
      Outcome t (readSessionE fuel st t (W.take k)) ((wholeMsgs c k msgs).map received)
        ((∃ W', writeAll c (wholeMsgs c k msgs) = .ok W' ∧ W'.length = k) ∨ W.length ≤ k) ∧
      wholeMsgs c k msgs = msgs.take (wholeMsgs c k msgs).length ∧
      ((wholeMsgs c k msgs).map received).map Msg.view = (wholeMsgs c k msgs).map Msg.view ∧
      (W.length ≤ k → wholeMsgs c k msgs = msgs)) ∧
  -- (3) handshake reads
  (∀ (t : Nat) (c0 c1 c2 rest : Bytes), c0.length = 1 → c1.length = 1536 → c2.length = 1536 → ∀ k,
    (3073 ≤ k → hsReadE t ((c0 ++ (c1 ++ (c2 ++ rest))).take k) = .ok ((c0, c1, c2), rest.take (k - 3073))) ∧
    (k < 3073 → ∃ e, hsReadE t ((c0 ++ (c1 ++ (c2 ++ rest))).take k) = .err e ∧ e.cause = .root t)) ∧
  -- (4) FLV files: every cut offset / injected error at every read offset
  (∀ (t : Nat) (hv ha : Bool) (tags : List Flv.Tag), (∀ tg ∈ tags, tg.WF) → ∀ k,
    (k < 13 → ∃ e, flvDemuxE t ((Flv.mux hv ha tags).take k) = .err e ∧ e.cause = .root t) ∧
    (13 ≤ k → ∃ e, flvDemuxE t ((Flv.mux hv ha tags).take k) =
        .ok ({ version := 1, hasVideo := hv, hasAudio := ha }, Flv.wholeTags (k - 13) tags, .err e) ∧ e.cause = .root t) ∧
    Flv.wholeTags (k - 13) tags <+: tags) ∧
  -- (5a) RTMP writer over a failing transport, any bufio policy
  (∀ (msgs : List Msg), (∀ m ∈ msgs, MsgOK m) → ∀ (c : Nat), 1 ≤ c → ∀ (t K : Nat) (pol : Pol)
      (st : Reader), st.inChunk = c → Clean st →
    ∃ W n e w', writeAll c msgs = .ok W ∧ writeSessionW t pol c { budget := K } msgs = .ok (n, e, w') ∧
      w'.out = W.take K ∧ n = (wholeMsgs c K msgs).length ∧
      (K < W.length → ∃ e', e = some e' ∧ e'.cause = .root t) ∧
      (W.length ≤ K → e = none ∧ n = msgs.length) ∧
      ∀ (t' fuel : Nat), w'.out.length < fuel →
        Outcome t' (readSessionE fuel st t' w'.out) ((msgs.take n).map received)
          ((∃ W', writeAll c (msgs.take n) = .ok W' ∧ W'.length = K) ∨ W.length ≤ K)) ∧
  -- (5b) FLV muxer over a failing transport
  (∀ (t K : Nat) (hv ha : Bool) (tags : List Flv.Tag), (∀ tg ∈ tags, tg.WF) →
    (flvMuxW t { budget := K } hv ha tags).2.2.out = (Flv.mux hv ha tags).take K ∧
    (flvMuxW t { budget := K } hv ha tags).1 = (if K < 13 then none else some (Flv.wholeTags (K - 13) tags).length) ∧
    ((Flv.mux hv ha tags).length ≤ K → (flvMuxW t { budget := K } hv ha tags).2.1 = none) ∧
    (K < (Flv.mux hv ha tags).length → (flvMuxW t { budget := K } hv ha tags).2.1 = some (.root t)) ∧
    (13 ≤ K → ∀ t', ∃ e, flvDemuxE t' (flvMuxW t { budget := K } hv ha tags).2.2.out =
        .ok ({ version := 1, hasVideo := hv, hasAudio := ha }, Flv.wholeTags (K - 13) tags, .err e) ∧ e.cause = .root t'))

/-- **C08** holds of the models, at full strength. (What the theorem does not carry is outside the models: that
`bufio`, `io.ReadFull`, `io.CopyN`, `binary.Read` realise the transport model stated at the top of this file, and
that the hand-written models are rtmp.go / flv.go / errors.go — both exercised by `corr C08` at every offset. The
exact io.EOF-vs-io.ErrUnexpectedEOF split INSIDE a message is fixed by the model and compared with the
implementation at every offset; the theorems give: one of the two, io.EOF on every message boundary and right
after a basic header, io.ErrUnexpectedEOF inside a message header — `cut_header_boundary`.) -/
theorem C08 : C08_statement :=
  ⟨fun ls r => ⟨cause_any_nesting ls r, message_chain ls r, build_none ls⟩,
   fun msgs hall c hc st hic hcl => cut_session msgs hall c hc st hic hcl,
   fun t c0 c1 c2 rest h0 h1 h2 k => handshake_cut t c0 c1 c2 rest h0 h1 h2 k,
   fun t hv ha tags h k => cut_inject_flv t hv ha tags h k,
   fun msgs hall c hc t K pol st hic hcl => write_fault msgs hall c hc t K pol st hic hcl,
   fun t K hv ha tags h => write_fault_flv t K hv ha tags h⟩

/-! ## non-vacuity -/

/-- `Wrap` puts the message layer inside and the stack layer outside, as errors.go does. -/
example : wrap "read chunk 128B" (some (.root 1)) = some (.withStack (.withMessage "read chunk 128B" (.root 1))) := rfl

/-- The chain of a real read error of the RTMP path. -/
example : (Err.withMessage "read message payload" (.withStack (.withMessage "read chunk 128B" (.root 1)))).message
    = "read message payload: read chunk 128B: unexpected EOF" := by decide +kernel

/-- Stopping one layer early is NOT the cause (what a broken `Cause` would return). -/
example : (Err.withStack (.withMessage "m" (.root 0))).unwrap1 ≠ (Err.withStack (.withMessage "m" (.root 0))).cause := by
  decide

/-- A session of the domain: Set Chunk Size 2, then a 5-byte message at an extended timestamp (3 chunks). -/
def exSet : Msg := { hdr := { cid := 2, ty := 1, sid := 0, ts := 0 }, payload := [0, 0, 0, 2] }
def exMsg : Msg := { hdr := { cid := 7, ty := 9, sid := 1, ts := 0xFFFFFF }, payload := [1, 2, 3, 4, 5] }

theorem ex_ok : ∀ m ∈ [exSet, exMsg], MsgOK m := by
  intro m hm
  simp only [List.mem_cons, List.mem_nil_iff, or_false] at hm
  rcases hm with rfl | rfl
  · refine ⟨⟨by decide, by decide, by decide, by decide, by decide, by decide, by decide, ?_⟩, fun _ => by decide⟩
    exact ⟨fun _ => by decide, fun h => absurd h (by decide), fun h => absurd h (by decide)⟩
  · refine ⟨⟨by decide, by decide, by decide, by decide, by decide, by decide, by decide, ?_⟩, fun h => absurd h (by decide)⟩
    exact ⟨fun h => absurd h (by decide), fun h => absurd h (by decide), fun h => absurd h (by decide)⟩

/-- Its wire is 16 + 31 = 47 bytes; cut at 45 the reader returns the first message only and io.ErrUnexpectedEOF;
cut at 16 (the message boundary) io.EOF; cut at 34 — a chunk boundary INSIDE the second message, where the reader
polls for the next basic header — also io.EOF, still only the first message; an injected error at 30 surfaces as
itself. -/
example : (match writeAll 128 [exSet, exMsg] with
    | .ok W => W.length == 47 &&
        (match readSession 128 0 (W.take 45) with | (ms, .err e) => ms.length == 1 && e.cls == .ueof | _ => false) &&
        (match readSession 128 0 (W.take 34) with | (ms, .err e) => ms.length == 1 && e.cls == .eof | _ => false) &&
        (match readSession 128 0 (W.take 16) with | (ms, .err e) => ms.length == 1 && e.cls == .eof | _ => false) &&
        (match readSession 128 2 (W.take 30) with | (ms, .err e) => ms.length == 1 && e.cls == .inject | _ => false) &&
        (match readSession 128 0 W with | (ms, .err e) => ms.length == 2 && e.cls == .eof | _ => false)
    | _ => false) = true := by decide +kernel

/-- A writer whose transport accepts 40 of the 47 bytes: one write acknowledged, the second fails with the
transport's cause in `Flush` (everything fits bufio's buffer), 40 bytes delivered. -/
example : (match writeSessionW 2 (goBufio 4096) 128 { budget := 40 } [exSet, exMsg] with
    | .ok (n, some e, w) => n == 1 && e.cls == .inject && w.out.length == 40 && e.shape == "SMR2"
    | _ => false) = true := by decide +kernel

end Oryx.Props.C08
