/-
  C14 — the websocket reader enforces the RFC 6455 framing rules and the read limit.
  Only property statements, their proofs from `Oryx.Proofs.WsReadStream` (every byte stream) and
  `Oryx.Proofs.WsRead` (frame sequences), and non-vacuity examples. Model: `Oryx.WsRead` (conn.go read
  side, repaired tree); spec: `Oryx.Spec.Ws`.
-/
import Oryx.Proofs.WsRead
namespace Oryx.Props.C14
open Oryx Oryx.WsRead Oryx.Gen.Websocket
open Oryx.Spec.Ws (Frame Role serialise serialiseAll recv)

/-- gate: the reader model starts on the byte string `serialiseAll fs` — ALL the bytes the peer sent after the opening
handshake. For a client obtained from `Dial` that is so because the handshake response is read through the buffered
reader the session keeps using: whatever the server sent right behind its 101 response is still in that reader
(regenerated from client.go on every run; the driver reads through dialled connections whose first transport read
carries the response and the frames together). -/
example : dialReadsThroughSessionReader = true := by decide

abbrev role (isServer : Bool) : Role := roleOf isServer

/-- **C14_refines.** For EVERY sequence of well-formed frames a peer may send (any opcodes, FIN/RSV
bits, mask bits and keys, length forms — non-minimal ones included — and announced lengths up to
2^64−1), both roles, deflate negotiated or not, any read limit: reading the wire image of the
sequence with `ReadMessage` until it fails
* delivers exactly the messages the conformant receiver `Spec.Ws.recv` delivers up to its first
  violation (type, compressed flag, payload), and writes back exactly its replies (a pong with the
  same payload for every ping, the close echo, Close 1002 / 1009);
* ends with the error that corresponds to how the spec receiver stops — protocol error for a
  violation (then a Close 1002 frame is among the replies), the limit error above the cap (the
  configured limit, or 2^63−1), the peer's close code and reason, unexpected EOF when the frames
  simply end;
* and that error is sticky: every later `ReadMessage` returns it, reads nothing, writes nothing. -/
theorem C14_refines (isServer deflate : Bool) (L : Int) (hL0 : 0 ≤ L) (hL1 : L < 2 ^ 63)
    (fs : List Frame) (hwf : ∀ f ∈ fs, f.WF) :
    ∃ t, session (init isServer deflate L (serialiseAll fs)) = some t ∧
      t.msgs = (recv (role isServer) deflate (capOf L) fs).msgs.map conv ∧
      t.final.replies = (recv (role isServer) deflate (capOf L) fs).replies ∧
      EndErr (recv (role isServer) deflate (capOf L) fs).fin t.err ∧
      ((recv (role isServer) deflate (capOf L) fs).fin = .fail 1002 →
          t.err = .proto ∧ (8, be 2 1002) ∈ t.final.replies) ∧
      readMessage t.final = .fail t.err { t.final with readLength := 0 } := by
  obtain ⟨t, t1, t2, t3, t4, t5⟩ := session_frames isServer deflate L hL0 hL1 fs hwf
  refine ⟨t, t1, t2, t3, t4, fun hf => ⟨?_, ?_⟩, readMessage_sticky _ _ t5⟩
  · have h4 : EndErr (.fail 1002) t.err := hf ▸ t4
    rcases h4 with ⟨_, h⟩ | ⟨h, _⟩
    · exact h
    · cases h
  · rw [t3]; exact Spec.Ws.recvFrom_fail_reply (role isServer) deflate (capOf L) fs none hf

/-- **ping_pong.** A ping that violates nothing is consumed and answered with a pong carrying the same
payload (unmasked application data), whatever the state of an open fragmented message; a pong is
consumed silently. -/
theorem ping_pong (s : RState) (f : Frame) (rest : Bytes) (hwf : f.WF) (hb : Bnd s)
    (hin : s.input = serialise f ++ rest) (hv : violOf s f = false) (hop : f.opcode = 9 ∨ f.opcode = 10) :
    ∃ s', advanceFrame s = .ok f.opcode s' ∧ s'.input = rest ∧
      s'.replies = (if f.opcode = 9 then s.replies ++ [(10, f.payload)] else s.replies) ∧
      s'.readFinal = s.readFinal ∧ s'.readLength = s.readLength := by
  obtain ⟨s', h1, h2, h3, _, _, h6, h7⟩ := step_pingpong s f rest hwf hb hin hv hop
  exact ⟨s', h1, h2, h3, h6, h7⟩

/-- **len64_top_bit.** A frame whose 64-bit length field has the most significant bit set is never
accepted as a frame: for every state (no frame pending), every first header byte, every mask bit,
every 8 length octets with value ≥ 2^63 and every continuation of the stream, `advanceFrame` does
not return a frame. (RFC 6455 §5.2; F14.) -/
theorem len64_top_bit (s : RState) (b0 b1 : UInt8) (ext rest : Bytes)
    (hrem : s.readRemaining ≤ 0) (hin : s.input = b0 :: b1 :: (ext ++ rest))
    (h7 : (decodeHdr b0 b1).len7 = 127) (hext : ext.length = 8) (htop : 2 ^ 63 ≤ ofBE ext) :
    ∀ ft s', advanceFrame s ≠ .ok ft s' :=
  advanceFrame_top_bit s b0 b1 ext rest hrem hin h7 hext htop

/-- **read_limit.** With a read limit `L > 0`, for EVERY byte stream the peer may send — every framing
of a message, every 7/16/64-bit length, any interleaving of control frames, any prior state of the
connection — `ReadMessage` never hands out more than `L` payload bytes: neither as a delivered
message (`e = none`) nor as the partial data returned next to an error. The proof carries the
invariant `0 ≤ readRemaining ∧ handedOut + readRemaining ≤ readLength ≤ L` with `readLength`
never wrapping (`int64` additions are modelled with explicit wrap). -/
theorem read_limit (s s' : RState) (m : Msg) (e : Option RErr) (hL : 0 < s.readLimit)
    (h : readMessage s = .ok (m, e) s') : (m.data.length : Int) ≤ s.readLimit := by
  obtain ⟨_, _, hlim, _⟩ := (readMessage_post s).of_ok h
  exact hlim hL

/-- … and over a whole session (repeated `ReadMessage` until it fails): every delivered message and
the partial data of the failing call respect the limit. -/
theorem read_limit_session (isServer deflate : Bool) (L : Int) (hL : 0 < L) (input : Bytes) (t : Trace)
    (h : session (init isServer deflate L input) = some t) :
    (∀ m ∈ t.msgs, (m.data.length : Int) ≤ L) ∧ (t.partialLen : Int) ≤ L := by
  obtain ⟨t', ht, hl⟩ := sessionLoop_post _ (init isServer deflate L input) [] (Nat.le_refl _)
  cases ht.symm.trans h
  exact hl hL nofun

/-- **sticky.** Once a read has failed, every later `ReadMessage` returns the same error, consumes
nothing and writes nothing. -/
theorem sticky (s : RState) (e : RErr) (h : s.readErr = some e) :
    readMessage s = .fail e { s with readLength := 0 } :=
  readMessage_sticky s e h

/-- **cut_never_short.** For EVERY byte stream — in particular one cut at any offset inside a frame or
between the fragments of a message — (1) reading ends in an error (a `Trace` always carries one; the
session loop always terminates), and (2) from a state with no message in progress, `ReadMessage`
delivers a message only when every byte announced by every frame of it has been read
(`data.length = readLength`, the never-wrapped sum of the announced frame lengths) and the last
frame was final, leaving the connection between messages again. A stream that ends inside a frame
cannot supply the announced bytes, one that ends inside a fragmented message has no final frame:
neither can end in a short message. -/
theorem cut_never_short :
    (∀ s : RState, ∃ t, session s = some t) ∧
    (∀ (s s' : RState) (m : Msg), s.readFinal = true → readMessage s = .ok (m, none) s' →
      (m.data.length : Int) = s'.readLength ∧ s'.readFinal = true ∧ s'.readRemaining = 0 ∧ s'.readErr = none) :=
  ⟨session_total, fun s _ _ hrf h => by
    obtain ⟨_, _, _, hdone⟩ := (readMessage_post s).of_ok h
    obtain ⟨herr, hfin, hrem, hlen⟩ := hdone rfl
    exact ⟨hlen hrf, hfin, hrem, herr⟩⟩

/-- **no_panic.** For all byte strings and all states the frame reader does not panic, `ReadMessage`
does not panic, the loops' fuel is never exhausted, and every finite stream ends the session in an
error (`Trace` always carries one) — so a cut stream can never end in a silently short message. -/
theorem no_panic (s : RState) :
    advanceFrame s ≠ .panic ∧ nextReader s ≠ .panic ∧ readMessage s ≠ .panic ∧ ∃ t, session s = some t :=
  ⟨advanceFrame_ne_panic s, (nextReader_post s).ne_panic, (readMessage_post s).ne_panic, session_total s⟩

/-! ### regression witnesses (F14 and its overflow sibling), evaluated on the model of the repaired code -/

/-- F14: text frame announcing 2^63 (non-final), then a final 11-byte continuation, limit 10. -/
def f14Stream : Bytes :=
  [0x01, 0x7f, 0x80, 0, 0, 0, 0, 0, 0, 0, 0x80, 11, 1, 2, 3, 4, 5, 6, 7, 8, 9, 10, 11]

/-- F14b: 10-byte first fragment, then a continuation announcing 2^63−1 (the int64 sum wraps). -/
def f14bStream : Bytes :=
  [0x01, 10, 1, 2, 3, 4, 5, 6, 7, 8, 9, 10, 0x80, 0x7f, 0x7f, 0xff, 0xff, 0xff, 0xff, 0xff, 0xff, 0xff, 1, 2, 3]

example : (session (init false false 10 f14Stream)).map (fun t => (t.msgs.length, t.err, t.final.replies)) =
    some (0, .proto, [(8, [0x03, 0xea])]) := by decide +kernel
example : (session (init false false 10 f14bStream)).map (fun t => (t.msgs.length, t.err, t.final.replies)) =
    some (0, .limit, [(8, [0x03, 0xf1])]) := by decide +kernel
example : (session (init false false 10 f14bStream)).map (fun t => t.partialLen) = some 10 := by decide +kernel

/-! ### non-vacuity -/

-- cut_never_short on a concrete cut: a 3-byte text frame cut after 2 payload bytes, and a fragmented
-- message cut between its fragments: an error, no message
example : (session (init false false 0 [0x81, 3, 97, 98])).map (fun t => (t.msgs, t.err, t.partialLen)) =
    some ([], .ueof, 2) := by decide +kernel
example : (session (init false false 0 [0x01, 2, 97, 98])).map (fun t => (t.msgs, t.err, t.partialLen)) =
    some ([], .ueof, 2) := by decide +kernel

-- a fragmented text message with a ping in the middle, then a frame with a reserved opcode: well-formed
-- frames; the spec receiver delivers "abc", answers the ping, fails with 1002 — and so does the model.
def exFrames : List Frame :=
  [ { fin := false, rsv1 := false, rsv2 := false, rsv3 := false, opcode := 1, masked := false, key := [],
      lenForm := 0, len := 2, payload := [97, 98] },
    { fin := true, rsv1 := false, rsv2 := false, rsv3 := false, opcode := 9, masked := false, key := [],
      lenForm := 0, len := 1, payload := [7] },
    { fin := true, rsv1 := false, rsv2 := false, rsv3 := false, opcode := 0, masked := false, key := [],
      lenForm := 1, len := 1, payload := [99] },
    { fin := true, rsv1 := false, rsv2 := false, rsv3 := false, opcode := 3, masked := false, key := [],
      lenForm := 0, len := 0, payload := [] } ]

example : ∀ f ∈ exFrames, f.WF := by decide
example : recv (role false) false (capOf 0) exFrames =
    { msgs := [{ ty := 1, compressed := false, data := [97, 98, 99] }],
      replies := [(10, [7]), (8, [0x03, 0xea])], fin := .fail 1002 } := by decide +kernel
example : (session (init false false 0 (serialiseAll exFrames))).map (fun t => (t.msgs, t.final.replies, t.err)) =
    some ([{ ty := 1, compressed := false, data := [97, 98, 99] }], [(10, [7]), (8, [0x03, 0xea])], .proto) := by
  decide +kernel

-- a state and stream satisfying the hypotheses of `len64_top_bit`
example : (decodeHdr 0x01 0x7f).len7 = 127 := by decide
example : (2 : Nat) ^ 63 ≤ ofBE [0x80, 0, 0, 0, 0, 0, 0, 0] := by decide
-- `read_limit` is not vacuous: a 3-byte message is delivered under limit 3, refused under limit 2
example : (session (init false false 3 [0x81, 3, 97, 98, 99])).map (fun t => (t.msgs, t.err)) =
    some ([{ ty := 1, compressed := false, data := [97, 98, 99] }], .ueof) := by decide +kernel
example : (session (init false false 2 [0x81, 3, 97, 98, 99])).map (fun t => (t.msgs, t.err)) =
    some ([], .limit) := by decide +kernel

end Oryx.Props.C14
